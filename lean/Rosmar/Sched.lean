/-
  Finer-grained atomic actions for the places where the code releases the bucket mutex between two steps of one call:
  the commit of a write and the posting of its event (`withNewCas`: `postNewEvent` runs after `inTransaction` returned),
  and the backfill query of a starting feed and its registration (`StartDCPFeed`). Core-only.
-/
import Rosmar.Step
namespace Rosmar

/-- The transaction of `withNewCas` without the post: returns the event still to be posted. -/
def commitOnly (s : State) (c : String) (fn : TxnFn) : State × Out × Option (Nat × Event) :=
  match s.coll? c with
  | none => (s, { err := .closed }, none)
  | some x =>
    let newCas := hlcNow s.hlc s.phys
    match fn newCas s.now s.nextRowId x.docs with
    | .inl out => ({ s with hlc := newCas }, out, none)
    | .inr (docs', nid, ev, out) => (commit s c x newCas nid docs', out, ev.map (fun e => (x.id, e)))

/-- The second half: `postNewEvent`, whenever the scheduler lets it run. -/
def postPending (s : State) (c : String) (p : Option (Nat × Event)) : State :=
  match p with
  | some (id, e) => postEvent s c id e
  | none => s

/-- `withNewCas` is the two halves back to back. -/
theorem withNewCas_eq_commit_then_post (s : State) (c : String) (fn : TxnFn) :
    withNewCas s c fn = (postPending (commitOnly s c fn).1 c (commitOnly s c fn).2.2, (commitOnly s c fn).2.1) := by
  unfold withNewCas commitOnly
  cases s.coll? c with
  | none => rfl
  | some x =>
    dsimp only
    cases fn (hlcNow s.hlc s.phys) s.now s.nextRowId x.docs with
    | inl out => rfl
    | inr q => obtain ⟨docs', nid, _ | e, out⟩ := q <;> rfl

/-- `StartDCPFeed` in two halves: the backfill query (the items are computed from the table as it is now) … -/
def feedQuery (s : State) (c : String) (bf : Backfill) (keysOnly : Bool) : List FeedItem :=
  match s.coll? c with
  | none => []
  | some x =>
    match bf with
    | .none => []
    | .resume => []
    | .from startCas =>
      [.beginBackfill] ++ (backfillRows x.docs startCas).map (fun d => .ev (backfillEvent d.1 d.2 keysOnly) x.id false) ++ [.endBackfill]

/-- … and, later, the registration that makes live events reach the feed. -/
def feedRegister (s : State) (id c : String) (items : List FeedItem) (dump keysOnly : Bool) : State :=
  { s with feeds := (s.feeds.filter (fun g => g.id ≠ id)) ++ [{ id := id, coll := c, keysOnly := keysOnly, dump := dump, pending := items }] }

/-- The CAS values of the events a feed has been given, in delivery order. -/
def feedCas (f : Feed) : List Nat :=
  f.pending.filterMap (fun it => match it with | .ev e _ _ => some e.cas | _ => none)

def feedKeys (f : Feed) : List String :=
  f.pending.filterMap (fun it => match it with | .ev e _ _ => some e.key | _ => none)

end Rosmar
