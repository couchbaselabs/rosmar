/-
  Dropping and re-creating collections (`DropDataStore`, `NamedDataStore`), and what calls through a `*Collection` object of a
  dropped collection do. Core-only. Kept outside `step`: the KV proofs quantify over `Op`, these are separate actions.
-/
import Rosmar.Step
namespace Rosmar

/-- `DropDataStore`: the collection's row goes (documents, design documents and index rows cascade), its feeds end.
Dropping a collection that does not exist succeeds. The bucket's own `lastCas` and the clock are untouched. -/
def opDropColl (s : State) (c : String) : State :=
  { s with colls := s.colls.filter (fun p => p.1 ≠ c),
           feeds := s.feeds.map (fun f => if f.coll = c then { f with stopped := true } else f) }

/-- `NamedDataStore` of a collection that does not exist creates it: empty, never-written, with the next row id of the
`collections` table (`integer primary key autoincrement`: ids are never reused). Returns the collection's id. -/
def opMkColl (s : State) (c : String) : State × Nat :=
  match s.coll? c with
  | some x => (s, x.id)
  | none =>
    ({ s with colls := s.colls ++ [(c, { id := s.nextCollId, lastCas := 0, docs := [] })], nextCollId := s.nextCollId + 1 }, s.nextCollId)

/-- A call through a `*Collection` object whose collection was dropped: it runs against a collection without documents – reads
and calls that need an existing document answer as for a missing key; a call that would store a row fails on the foreign key and
the transaction is rolled back. Either way a CAS may have been drawn (the clock advances) and nothing else changes. -/
def stepDropped (s : State) (c : String) (op : Op) : State × Option Resp :=
  let ghost : State := { s with colls := s.colls ++ [(c, { id := 0, lastCas := 0, docs := [] })], feeds := [] }
  let (s2, resp) := step ghost op
  let wrote := s2.lastCas ≠ s.lastCas || (s2.coll? c).map (fun x => x.docs.length) ≠ some 0
  ({ s with hlc := s2.hlc }, if wrote then none else some resp)

theorem opDropColl_coll?_other (s : State) (c c' : String) (h : c' ≠ c) : (opDropColl s c).coll? c' = s.coll? c' := by
  simp only [opDropColl, State.coll?, List.find?_filter]
  congr 2
  funext p
  by_cases hp : p.1 = c' <;> simp [hp, h]

theorem opDropColl_gone (s : State) (c : String) : (opDropColl s c).coll? c = none := by
  simp [opDropColl, State.coll?, List.find?_filter]

/-- Calls through a dropped collection's object change no collection. -/
theorem stepDropped_colls (s : State) (c : String) (op : Op) : (stepDropped s c op).1.colls = s.colls := rfl

theorem stepDropped_marks (s : State) (c : String) (op : Op) :
    (stepDropped s c op).1.lastCas = s.lastCas ∧ (stepDropped s c op).1.acked = s.acked ∧ (stepDropped s c op).1.expNext = s.expNext := ⟨rfl, rfl, rfl⟩

end Rosmar
