import Rosmar.Proofs.ViewLemmas
import Rosmar.Proofs.Collate

/-!
# C12 — A non-stale view query equals the map function applied to the current documents

The model (`Rosmar/View.lean`) keeps, per view, `lastCas` and the `mapped` rows grouped by document; `updateIndex` is
`updateView`'s transaction (delete the rows of documents with `cas > lastCas`, re-map those that have a body or xattrs, set
`lastCas` to the collection's); a query ranges over `mapped INNER JOIN documents` (`joined`), then the SQL stage (range, order,
limit) and sg-bucket's `ProcessParsed` stage (`keys`, reduce / group).

What is proved, for **every** history of calls that contains no WithMeta write, every placement of queries and every parameter
combination: the rows a non-stale query ranges over are literally the map function evaluated from scratch over the current
documents, so the result cannot depend on when or how often the index was updated. With a WithMeta write in the history the
statement is false (the write stamps a caller-chosen CAS and does not advance the collection's `lastCas`): `C12_full_false`,
recorded as an open known finding with a replay on the real code.
-/

namespace Rosmar.View
open Rosmar

/-- **The index invariant survives every call that is not a WithMeta write** – all entry points, deletes, resurrections,
xattr-only writes, touches, purges, expiry sweeps, reopening. -/
theorem C12_invariant_along_history (c : String) (v : ViewDef) (ops : List Op) (hwf : ∀ op ∈ ops, NoMeta op) (s : State)
    (h : VInv c v s) : VInv c v (run s ops).1 :=
  run_inv (vinv_step c v) ops s hwf h

/-- **A non-stale query ranges over exactly the map function's output for the current documents** (every document that has a
body or xattrs, once, in its current version; nothing for a document that is gone), whatever was indexed before and whenever. -/
theorem C12_nonstale_rows_are_fresh (c : String) (v : ViewDef) (s : State) (h : VInv c v s) (x : Coll) (hx : s.coll? c = some x) :
    joined x.docs (updateIndex x.docs x.lastCas v) = freshIndex x.docs v.mapId :=
  (updateIndex_exact v x (h.2 x hx)).1

/-- Hence the query result is the same query evaluated over a from-scratch index, for every parameter combination. -/
theorem C12_result_independent_of_index_history (c : String) (v : ViewDef) (s : State) (h : VInv c v s) (x : Coll)
    (hx : s.coll? c = some x) (p : Params) :
    queryRows p v.reduce (joined x.docs (updateIndex x.docs x.lastCas v)) = queryRows p v.reduce (freshIndex x.docs v.mapId) := by
  rw [C12_nonstale_rows_are_fresh c v s h x hx]

/-- The query leaves the view fit for the histories that follow (so the two theorems above apply again at the next query). -/
theorem C12_query_keeps_invariant (c : String) (v : ViewDef) (s : State) (h : VInv c v s) (x : Coll) (hx : s.coll? c = some x) :
    VInv c (updateIndex x.docs x.lastCas v) s :=
  h.of_collOK hx (updateIndex_exact v x (h.2 x hx)).2

/-- So does the cascade that removes the rows of purged documents. -/
theorem C12_gc_keeps_invariant (c : String) (v : ViewDef) (s : State) (h : VInv c v s) (x : Coll) (hx : s.coll? c = some x) :
    VInv c (v.gc x.docs) s :=
  h.of_collOK hx (gc_collOK v x (h.2 x hx))

/-- Putting (or replacing) a design document creates views that are fit at once, at any point of a history. -/
theorem C12_new_view_is_fit (c : String) (v : ViewDef) (s : State) (h : VInv c v s) (name : String) (m : Nat) (red : String) :
    VInv c { name := name, mapId := m, reduce := red } s :=
  ⟨h.1, fun x hx => new_view_collOK name m red x (h.2 x hx).1 (h.2 x hx).2.1⟩

/-! ### The whole history at once: KV calls and queries on one view, interleaved in any way -/

inductive VOp where
  | kv (op : Op)
  | query (p : Params)

/-- One step of the (bucket, view) pair; a query reports its rows. -/
def vstep (c : String) (sv : State × ViewDef) : VOp → (State × ViewDef) × Option (List VRow)
  | .kv op =>
    let s' := (step sv.1 op).1
    ((s', match s'.coll? c with | some x => sv.2.gc x.docs | none => sv.2), none)
  | .query p =>
    match sv.1.coll? c with
    | some x =>
      let v' := if p.staleOk then sv.2 else updateIndex x.docs x.lastCas sv.2
      ((sv.1, v'), some (queryRows p v'.reduce (joined x.docs v')))
    | none => (sv, none)

/-- What a query in state `sv` must answer. -/
def expectedAnswer (c : String) (sv : State × ViewDef) (p : Params) : Option (List VRow) :=
  (sv.1.coll? c).map (fun x => queryRows p sv.2.reduce (freshIndex x.docs sv.2.mapId))

/-- Every non-stale query of the history answers as a from-scratch evaluation would. -/
def AllFresh (c : String) : State × ViewDef → List VOp → Prop
  | _, [] => True
  | sv, .kv op :: rest => AllFresh c (vstep c sv (.kv op)).1 rest
  | sv, .query p :: rest =>
    (p.staleOk = false → (vstep c sv (.query p)).2 = expectedAnswer c sv p) ∧ AllFresh c (vstep c sv (.query p)).1 rest

/-- Every step of the (bucket, view) pair that is not a WithMeta write keeps the view fit. -/
theorem vstep_vinv (c : String) (sv : State × ViewDef) (o : VOp) (hnm : ∀ op, o = .kv op → NoMeta op) (hinv : VInv c sv.2 sv.1) :
    VInv c (vstep c sv o).1.2 (vstep c sv o).1.1 := by
  cases o with
  | kv op =>
    have h1 : VInv c sv.2 (step sv.1 op).1 := step_inv (vinv_step c sv.2) sv.1 op (hnm op rfl) hinv
    show VInv c (match (step sv.1 op).1.coll? c with | some x => sv.2.gc x.docs | none => sv.2) (step sv.1 op).1
    cases hx : (step sv.1 op).1.coll? c with
    | none => exact h1
    | some x => exact C12_gc_keeps_invariant c sv.2 _ h1 x hx
  | query p =>
    unfold vstep
    cases hx : sv.1.coll? c with
    | none => exact hinv
    | some x =>
      dsimp only
      split
      · exact hinv
      · exact C12_query_keeps_invariant c sv.2 sv.1 hinv x hx

/-- **C12 (partial: histories without WithMeta writes)** – for all write histories through all other entry points, all
placements of (stale and non-stale) view queries inside the history, and all query parameter combinations, every non-stale
query returns the query evaluated over the map function applied to the documents as they are at that moment. -/
theorem C12_history_partial (c : String) (ops : List VOp) (hnm : ∀ op, VOp.kv op ∈ ops → NoMeta op) :
    ∀ sv : State × ViewDef, VInv c sv.2 sv.1 → AllFresh c sv ops := by
  induction ops with
  | nil => intro _ _; trivial
  | cons o rest ih =>
    intro sv hinv
    have hnext := ih (fun op h => hnm op (List.mem_cons_of_mem _ h)) _
      (vstep_vinv c sv o (fun op h => hnm op (h ▸ List.mem_cons_self)) hinv)
    cases o with
    | kv op => exact hnext
    | query p =>
      refine ⟨fun hst => ?_, hnext⟩
      unfold vstep expectedAnswer
      cases hx : sv.1.coll? c with
      | none => rfl
      | some x =>
        simp only [hst, Bool.false_eq_true, if_false, Option.map_some]
        rw [C12_nonstale_rows_are_fresh c sv.2 sv.1 hinv x hx, updateIndex_reduce]

/-- The initial bucket with a just-created view satisfies the invariant (so the theorem above starts somewhere). -/
theorem C12_initial (c name : String) (m : Nat) (red : String) : VInv c { name := name, mapId := m, reduce := red } initState := by
  refine ⟨initState_clockInv, fun x hx => ?_⟩
  obtain ⟨p, hp, rfl⟩ := State.coll?_mem hx
  have hnil := (initState_colls hp).1
  exact new_view_collOK name m red _ (hnil ▸ List.nodup_nil) (hnil ▸ fun _ hd => nomatch hd)

/-! ### The rest of the statement: order, range, limit, descending, reduce -/

/-- Without `keys` and without grouping, the query as rosmar runs it is the specification (CouchDB semantics over a from-scratch
evaluation) outright: ordered by key collation then document id, restricted to the range, reversed when descending, cut at the
limit, reduced when asked. -/
theorem C12_query_meets_spec_nokeys_nogroup (p : Params) (red : String) (docs : Docs) (m : Nat) (hk : p.keys = none)
    (hg : p.group = false) (hl : p.groupLevel = none) :
    queryRows p red (freshIndex docs m) = specRows p red docs m := by
  unfold queryRows queryRowsWith specRows processStage
  -- with these parameters neither side consults a comparison after the SQL stage: they are the same program
  rw [hk, hg, hl]
  rfl

/-- With `keys`, ascending and without limit, the SQL stage only sorts. -/
theorem sqlStage_of_keys (p : Params) (rows : List VRow) (hk : p.keys.isSome = true) (hd : p.descending = false) (hl : p.limit = none) :
    sqlStage p rows = sortRows rows := by
  simp only [sqlStage, bounds, hk, hd, hl, if_true, takeLimit, geMin, leMax, Bool.and_self, Bool.false_eq_true, if_false]
  exact List.filter_eq_self.mpr fun _ _ => rfl

/-- With `keys` (not combined with descending or limit) or grouping, the two coincide as soon as the comparison used by
sg-bucket's `keys` selection and grouping (`collateGo`) agrees with the JSON collation – which it does except between two objects. -/
theorem C12_query_meets_spec_when_collators_agree (p : Params) (red : String) (docs : Docs) (m : Nat)
    (hk : p.keys.isSome → p.descending = false ∧ p.limit = none) :
    queryRowsWith collate p red (freshIndex docs m) = specRows p red docs m := by
  unfold queryRowsWith specRows processStage
  cases hks : p.keys with
  | none => rfl
  | some ks =>
    obtain ⟨hd, hl⟩ := hk (hks ▸ rfl)
    -- either side is now the `keys` selection over the sorted rows, then the same reduce
    rw [sqlStage_of_keys p _ (hks ▸ rfl) hd hl, hd, hl]
    rfl

/-- **With every emitted key free of objects, the query as rosmar runs it is the specification**, whatever keys are requested:
sg-bucket's Go-value collator is handed the row's key on the left, and agrees with the JSON collation whenever its left value holds no
object (`collateGo_eq_of_objFree`). -/
theorem C12_query_meets_spec_rows_objfree (p : Params) (red : String) (docs : Docs) (m : Nat)
    (hk : p.keys.isSome → p.descending = false ∧ p.limit = none)
    (hidx : ∀ r ∈ flatten (freshIndex docs m), r.key.objFree = true) :
    queryRows p red (freshIndex docs m) = specRows p red docs m := by
  rw [queryRows_eq_with_collate p red _ hidx]
  exact C12_query_meets_spec_when_collators_agree p red docs m hk

/-- **With every emitted key and every requested key free of objects, the query as rosmar runs it is the specification** – for
`keys` (not combined with descending / limit) and grouping too: sg-bucket's Go-value collator provably agrees with the JSON collation
on such values (`collateGo_eq_collate`). -/
theorem C12_query_meets_spec_objfree (p : Params) (red : String) (docs : Docs) (m : Nat)
    (hk : p.keys.isSome → p.descending = false ∧ p.limit = none)
    (hidx : ∀ r ∈ flatten (freshIndex docs m), r.key.objFree = true)
    (hkeys : ∀ ks, p.keys = some ks → ∀ t ∈ ks, t.objFree = true) :
    queryRows p red (freshIndex docs m) = specRows p red docs m :=
  C12_query_meets_spec_rows_objfree p red docs m hk hidx

/-! ### The full statement is false: WithMeta writes (open known finding F11) -/

/-- A view indexed up to CAS 10 over one document; a `DeleteWithMeta` then stores the tombstone with the caller's CAS 5 and – as
every WithMeta write – leaves the collection's `lastCas` at 10: the next non-stale query sees `lastCas` unchanged, does not update,
and still returns the row of the deleted document. -/
theorem C12_full_false :
    let v : ViewDef := { name := "v", mapId := 0, reduce := "", lastCas := 10, mapped := [("k", [(.str "k", .null)])] }
    let tomb : Row := { rowid := 1, value := none, cas := 5, exp := 0, isJSON := false, xattrs := [], tomb := true, rev := 2 }
    let docs : Docs := [("k", tomb)]
    joined docs (updateIndex docs 10 v) ≠ freshIndex docs v.mapId := by
  -- the index still holds one row for `k`, the map function gives none
  intro v tomb docs h
  exact absurd (congrArg (fun l => l.map (·.2.length)) h) (by decide)

/-- The premise of the partial theorems is satisfiable by a state with documents and an indexed view. -/
example :
    let r : Row := { rowid := 1, value := some "{}", cas := 7, exp := 0, isJSON := true, xattrs := [], tomb := false, rev := 1 }
    let x : Coll := { id := 1, lastCas := 9, docs := [("k", r)] }
    CollOK { name := "v", mapId := 0, reduce := "", lastCas := 3, mapped := [] } x := by
  refine ⟨by unfold KeysNodup; decide, ?_, by decide, ?_⟩
  · intro d hd; simp only [List.mem_singleton] at hd; subst hd; decide
  · intro d hd hc; simp only [List.mem_singleton] at hd; subst hd; simp at hc

end Rosmar.View
