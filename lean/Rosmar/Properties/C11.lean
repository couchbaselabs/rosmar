/-
  C11 — collections (and buckets) are isolated from one another.
-/
import Rosmar.Proofs.Shape
import Rosmar.Colls
namespace Rosmar

/-- **Frame.** A single-row call addressed to collection `c` leaves every other collection exactly as it was:
    documents, xattrs, expiries, CAS, revision numbers, the collection's high-water mark — the whole `Coll` value. -/
theorem C11_other_collections_untouched (s : State) (op : Op) (c k : String) (f : RowFn) (h : op.shape = some (.row c k f))
    (c' : String) (hne : c' ≠ c) : (step s op).1.coll? c' = s.coll? c' := by
  obtain ⟨e, he⟩ := step_shape s op _ h
  rw [he]
  exact withNewCas_coll?_other s c c' _ hne

/-- … in particular every key of every other collection reads as before, even when the same key exists in both. -/
theorem C11_same_key_other_collection (s : State) (op : Op) (c k : String) (f : RowFn) (h : op.shape = some (.row c k f))
    (c' : String) (hne : c' ≠ c) (k' : String) : (step s op).1.row? c' k' = s.row? c' k' := by
  rw [State.row?_def, State.row?_def, C11_other_collections_untouched s op c k f h c' hne]

/-- A rejected call changes nothing anywhere. -/
theorem C11_rejected (s : State) (op : Op) (e : Err) (h : op.shape = some (.rejected e)) : (step s op).1 = s := by
  rw [step_rejected s op e h]

/-- **Feeds**: the event of a write to `c` is queued only on feeds of `c`. -/
theorem C11_feeds_of_other_collections (s : State) (c : String) (id : Nat) (e : Event) (f : Feed) (hf : f ∈ s.feeds)
    (hne : f.coll ≠ c) : f ∈ (postEvent s c id e).feeds :=
  List.mem_map.mpr ⟨f, hf, if_neg fun h => hne h.1⟩

/-- The compound read-modify-write calls only ever run single-row transactions on their own collection,
    so the frame extends to them. -/
theorem C11_update_frame (fuel : Nat) : ∀ (s : State) (c k : String) (exp : Nat) (steps : List UpdStep) (calls : Nat) (seen : List String)
    (c' : String), c' ≠ c → (opUpdate fuel s c k exp steps calls seen).1.coll? c' = s.coll? c' :=
  fun s c k exp steps calls seen c' hne =>
    opUpdate_induction (P := fun s' => s'.coll? c' = s.coll? c') c k
      (fun s' _ _ _ h => (withNewCas_coll?_other s' c c' _ hne).trans h) fuel s exp steps calls seen rfl

/-- Non-vacuity: `Touch` (whose UPDATE once had no collection conjunct) on `c0/k` leaves `c1/k` alone. -/
example :
    let s1 := (step initState (.set "c0" "k" 0 false "1" false)).1
    let s2 := (step s1 (.set "c1" "k" 0 false "2" false)).1
    let s3 := (step s2 (.touch "c0" "k" 500)).1
    s3.row? "c1" "k" = s2.row? "c1" "k" ∧ (s3.row? "c0" "k").map (·.exp) = some 1700000500 := by
  decide

/-! ### Dropping and re-creating collections -/

/-- Dropping a collection leaves every other collection exactly as it was… -/
theorem C11_drop_leaves_other_collections (s : State) (c c' : String) (h : c' ≠ c) : (opDropColl s c).coll? c' = s.coll? c' :=
  opDropColl_coll?_other s c c' h

/-- …and removes it: whatever it held is gone. -/
theorem C11_dropped_collection_is_gone (s : State) (c : String) : (opDropColl s c).coll? c = none := opDropColl_gone s c

/-- A collection created after a drop (under the old or another name) starts empty, never written, with an id that no
collection of the bucket has had (`nextCollId` only grows), and every other collection is as it was. -/
theorem C11_recreated_collection_is_empty_and_new (s : State) (c : String) (h : s.coll? c = none) :
    (opMkColl s c).2 = s.nextCollId ∧ (opMkColl s c).1.nextCollId = s.nextCollId + 1 ∧
    (opMkColl s c).1.colls = s.colls ++ [(c, { id := s.nextCollId, lastCas := 0, docs := [] })] := by
  unfold opMkColl; rw [h]; exact ⟨rfl, rfl, rfl⟩

/-- A call made through the object of a dropped collection changes no collection (nor the bucket's high-water mark, the
committed log or the expiry timer): at most the clock has advanced. -/
theorem C11_calls_on_a_dropped_collection_touch_nothing (s : State) (c : String) (op : Op) :
    (stepDropped s c op).1.colls = s.colls ∧ (stepDropped s c op).1.lastCas = s.lastCas ∧
    (stepDropped s c op).1.acked = s.acked ∧ (stepDropped s c op).1.expNext = s.expNext :=
  ⟨rfl, rfl, rfl, rfl⟩

end Rosmar
