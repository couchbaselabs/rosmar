/-
  C19 — SQL queries see exactly the live documents of their collection.
  (SQLite's evaluation of the user's statement over the common table expression is trusted; the family's twins are
  compared with it by the correspondence check on both bucket kinds.)
-/
import Rosmar.Query
import Rosmar.Proofs.Lemmas
namespace Rosmar

/-- **`$_keyspace` ranges over exactly the documents of that collection that currently have a body**, each with its
    current id, body and xattrs: a key is in the keyspace iff `Exists` says so, with the value `GetRaw` returns. -/
theorem C19_keyspace_is_the_live_documents (s : State) (c : String) (x : Coll) (hx : s.coll? c = some x) (r : KsRow) :
    r ∈ keyspace s c ↔ ∃ row, (r.id, row) ∈ x.docs ∧ row.value = some r.body ∧ row.xattrs = r.xattrs := by
  unfold keyspace
  rw [hx]
  simp only [List.mem_filterMap, Option.map_eq_some_iff]
  constructor
  · rintro ⟨d, hd, b, hv, rfl⟩
    exact ⟨d.2, hd, hv, rfl⟩
  · rintro ⟨row, hmem, hv, hxa⟩
    exact ⟨(r.id, row), hmem, r.body, hv, by rw [hxa]⟩

/-- **Never a tombstone, every live document once**: the keyspace has exactly one row per stored row that has a body. -/
theorem C19_one_row_per_live_document (s : State) (c : String) (x : Coll) (hx : s.coll? c = some x) :
    (keyspace s c).map (·.id) = (x.docs.filter (fun d => d.2.value.isSome)).map (·.1) := by
  unfold keyspace
  rw [hx]
  simp only
  induction x.docs with
  | nil => rfl
  | cons d ds ih =>
    cases hv : d.2.value <;> simp [List.filterMap, List.filter, hv, ih]

/-- **Never another collection's documents**: the keyspace of `c` is computed from `c`'s table alone, so an operation
    that leaves collection `c` alone (C11) leaves every query over `c` alone. -/
theorem C19_only_own_collection (s s' : State) (c : String) (h : s'.coll? c = s.coll? c) (q : Nat) :
    opQuery s' c q = opQuery s c q := by
  unfold opQuery keyspace
  rw [h]

/-- **All rows are returned once**: the iterator hands out the recorded / streamed rows one by one and then stays
    exhausted (`preRecordedQueryIterator`, as a list machine). -/
def iterNext : List String → Option String × List String
  | [] => (none, [])
  | r :: rest => (some r, rest)

def drainIter : Nat → List String → List String
  | 0, _ => []
  | n + 1, rows => match iterNext rows with
    | (some r, rest) => r :: drainIter n rest
    | (none, _) => []

theorem C19_iterator_returns_every_row_once (rows : List String) : drainIter (rows.length + 1) rows = rows ∧
    (iterNext []).1 = none := by
  refine ⟨?_, rfl⟩
  induction rows with
  | nil => rfl
  | cons r rest ih => simp [drainIter, iterNext, ih]

/-- `count(*)` is the number of live documents. -/
theorem C19_count (s : State) (c : String) : opQuery s c 2 = ["{\"n\":" ++ toString (keyspace s c).length ++ "}"] := rfl

/-- Non-vacuity: one live document, one tombstone, one document in another collection. -/
example :
    let s := (run initState [.set "c0" "a" 0 false "{\"a\":65}" false, .set "c0" "b" 0 false "{}" false, .delete "c0" "b",
                             .set "c1" "z" 0 false "{}" false]).1
    opQuery s "c0" 1 = ["{\"id\":\"a\"}"] ∧ opQuery s "c0" 2 = ["{\"n\":1}"] := by
  decide

end Rosmar
