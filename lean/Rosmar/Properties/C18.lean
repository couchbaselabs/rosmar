/-
  C18 — sub-document writes change only the addressed property, CAS-safely.
  (Go's decode of the document into map[string]any and its re-encoding — number formats, key order, escaping — are outside
  the model; the correspondence check stresses that glue, and F18 records what it found.)
-/
import Rosmar.Proofs.SubdocLemmas
import Rosmar.Proofs.Insert
namespace Rosmar

/-- **Every other property is preserved**: a set or remove at any dotted path leaves every other top-level property of
    the document exactly as it was (and, recursively, every sibling inside the parents it walks through). -/
theorem C18_other_properties_preserved (path : List String) (d d' : J) (v : Option J) (insert : Bool)
    (h : subdocEdit d path v insert = .inr d') (q : String) (hq : path.head? ≠ some q) : topGet d' q = topGet d q :=
  upsertAt_top_frame path d d' v (upsertAt_of_subdocEdit h) q hq

/-- **The addressed property is set**: afterwards the path evaluates to the value written … -/
theorem C18_sets_the_addressed_property (path : List String) (hp : path ≠ []) (d d' : J) (x : J) (hx : x.isNullAtom = false)
    (insert : Bool) (h : subdocEdit d path (some x) insert = .inr d') : evalSubdocPath d' path = .inr x := by
  simpa [hx] using (eval_after_upsert path d d' _ (upsertAt_of_subdocEdit h)).2

/-- … **or, for an empty value, removed**. -/
theorem C18_removes_for_empty_value (path : List String) (hp : path ≠ []) (d d' : J) (insert : Bool)
    (h : subdocEdit d path none insert = .inr d') : evalSubdocPath d' path = .inl .pathNotFound :=
  (eval_after_upsert path d d' _ (upsertAt_of_subdocEdit h)).2

/-- **SubdocInsert refuses an existing property** (present with a non-null value). -/
theorem C18_insert_refuses_existing (d : J) (path : List String) (v : Option J) (fs : Fields)
    (hparent : evalSubdocPath d (dropLast' path) = .inr (.obj fs)) (hex : hasNonNull fs (last' path) = true) :
    subdocEdit d path v true = .inl .pathExists := by
  simp [subdocEdit, hparent, hex]

/-- **SubdocInsert refuses a missing document** (never written, deleted or purged), writing nothing. -/
theorem C18_insert_refuses_missing_document (s : State) (c k pathStr : String) (path : List String) (cas : Nat) (txt : String) (j : J)
    (hp : parseSubdocPath pathStr = .inr path) (hv : J.parse txt = some j)
    (hmiss : getRaw s c k = (.missing, none, (getRaw s c k).2.2)) :
    opSubdocWrite s c k pathStr cas (some txt) true = (s, { err := .missing }) := by
  have h1 : (getRaw s c k).2.1 = none := by rw [hmiss]
  have h2 : (getRaw s c k).1 = .missing := by rw [hmiss]
  simp [opSubdocWrite, subdocPlan, hp, hv, h1, h2]

/-- **A supplied CAS is honoured**: the plan only proceeds to the write when the CAS it read is the one supplied (or none
    was supplied), and the write it then issues is conditional on that very CAS. -/
theorem C18_supplied_cas_is_honoured (s : State) (c k path : String) (cas : Nat) (v : Option String) (insert : Bool)
    (casRead : Nat) (body : String) (h : subdocPlan s c k path cas v insert = .inr (casRead, body)) :
    casRead = (getRaw s c k).2.2 ∧ (cas = 0 ∨ casRead = cas) := by
  unfold subdocPlan at h
  split at h
  · cases h
  · simp only at h
    split at h
    · cases h
    · split at h
      · cases h
      · split at h
        · cases h
        · rename_i hcas
          split at h
          · cases h
          · cases h
            exact ⟨rfl, Decidable.or_iff_not_not_and_not.mpr hcas⟩

/-- **Equivalent to reading, editing and writing back atomically on the version that was read**: the call is a pure plan
    (read + edit) followed by one `WriteCas` conditional on exactly the CAS the plan read — so (C02) it is applied only if
    no other writer replaced that version in between, and a concurrent update of another property is never lost. -/
theorem C18_is_plan_then_conditional_write (s : State) (c k path : String) (cas : Nat) (v : Option String) (insert : Bool) :
    opSubdocWrite s c k path cas v insert =
      match subdocPlan s c k path cas v insert with
      | .inl out => (s, out)
      | .inr (casRead, body) => opWriteCas s c k 0 casRead (some body) {} := rfl

/-- **GetSubDocRaw returns the JSON of exactly the addressed property.** -/
theorem C18_get_returns_addressed_property (s : State) (c k pathStr body : String) (path : List String) (cas : Nat) (d x : J)
    (hp : parseSubdocPath pathStr = .inr path) (hg : getRaw s c k = (.ok, some body, cas)) (hd : bodyAsObject body = .inr d)
    (hx : evalSubdocPath d path = .inr x) : opGetSubDocRaw s c k pathStr = { cas := cas, val := some x.canon.print } := by
  simp [opGetSubDocRaw, hp, hg, hd, hx]

/-- Non-vacuity on the object model: set a nested property, a sibling and another top-level property survive. -/
example :
    let d : J := .obj (.cons "a" (.atom "1") (.cons "n" (.obj (.cons "x" (.atom "2") (.cons "y" (.atom "3") .nil))) .nil))
    (match subdocEdit d ["n", "x"] (some (.atom "9")) false with
     | .inr d' => (d'.print, (topGet d' "a").map J.print)
     | .inl _ => ("", none)) = ("{\"a\":1,\"n\":{\"x\":9,\"y\":3}}", some "1") := by
  decide

end Rosmar
