/-
  C02 — a CAS-conditional write succeeds iff the CAS is current.
-/
import Rosmar.Proofs.Insert
import Rosmar.Proofs.Clock
namespace Rosmar

/-- The expected-CAS argument of the CAS-conditional entry points (`none`: the call is not CAS-conditional —
    in particular `WriteCas` with CAS 0 or `AddOnly`, which is insert-style and belongs to C06). -/
def Op.expectedCas : Op → Option Nat
  | .wcas _ _ _ cas _ o => if cas ≠ 0 ∧ o.addOnly = false then some cas else none
  | .remove _ _ cas => some cas
  | .rmx _ _ _ cas => some cas
  | .updx _ _ _ cas _ _ => some cas
  | .wwx _ _ _ cas _ _ _ _ _ => some cas
  | .wtx _ _ _ cas _ _ _ _ => some cas
  | .uxdb _ _ _ _ cas _ _ => some cas
  | _ => none

/-- Row functions run by a conditional call with expected CAS `cas` write only onto the version with that CAS. -/
theorem conditional_row (op : Op) (cas : Nat) (hc : op.expectedCas = some cas) (c k : String) (f : RowFn)
    (h : op.shape = some (.row c k f)) : WritesOnVersion cas k f := by
  suffices hs : ∀ sh, op.shape = some sh → sh.All (WritesOnVersion cas) from hs _ h
  intro sh hsh
  cases op <;> simp only [Op.expectedCas, reduceCtorEq] at hc <;> simp only [Op.shape, Option.some.injEq] at hsh <;> subst hsh
  case wcas c0 k0 exp cas0 v o =>
    split at hc
    · rename_i hh; cases hc
      exact wcasRow_writesOnVersion hh.1 hh.2
    · cases hc
  case remove => cases hc; exact removeRow_writesOnVersion
  case rmx | uxdb => cases hc; exact wwxShape_all wwxRow_writesOnVersion
  case updx => cases hc; exact shapeUpdateXattrs_all (fun _ _ _ _ => wwxRow_writesOnVersion) ..
  case wwx => cases hc; exact shapeWriteWithXattrs_all (fun _ _ _ _ => wwxRow_writesOnVersion) ..
  case wtx => cases hc; exact shapeWriteTombstoneWithXattrs_all (fun _ _ _ _ => wwxRow_writesOnVersion) ..

/-- **C02, all conditional entry points, all states.** The call either changes no row of any collection, or the
    expected CAS it carried was the document's current CAS (0 = no such document), the document now carries the new
    CAS just drawn from the clock, and no other key changed. -/
theorem C02_applied_only_if_current (s : State) (op : Op) (cas : Nat) (hc : op.expectedCas = some cas)
    (c k : String) (f : RowFn) (h : op.shape = some (.row c k f)) :
    (∀ c' k', (step s op).1.row? c' k' = s.row? c' k') ∨
    (casOf (s.row? c k) = cas ∧ casOf ((step s op).1.row? c k) = hlcNow s.hlc s.phys ∧
      ∀ c' k', (c' ≠ c ∨ k' ≠ k) → (step s op).1.row? c' k' = s.row? c' k') := by
  refine (step_rows s op c k f h).imp_right fun ⟨r', ev, out, hf, _, hr, hother⟩ => ?_
  obtain ⟨h1, h2⟩ := conditional_row op cas hc c k f h _ _ _ _ _ _ hf
  exact ⟨h1, by rw [hr]; exact h2, hother⟩

/-- **Consequently two writers that both read version `v` can never both replace it**: once a conditional write on
    version `cas` has been applied the document carries the CAS just drawn from the clock, which is larger than the
    clock's previous high-water mark; a second conditional call that still expects `cas` is therefore not applied
    whenever the version it expects is not newer than that mark (true of every CAS the regular API ever handed out, C04). -/
theorem C02_at_most_one_of_two_writers (s : State) (op1 op2 : Op) (cas : Nat)
    (h1c : op1.expectedCas = some cas) (h2c : op2.expectedCas = some cas)
    (c k : String) (f1 f2 : RowFn) (h1 : op1.shape = some (.row c k f1)) (h2 : op2.shape = some (.row c k f2))
    (hle : cas ≤ s.hlc)
    (hw1 : ¬ ∀ c' k', (step s op1).1.row? c' k' = s.row? c' k') :
    ∀ c' k', (step (step s op1).1 op2).1.row? c' k' = (step s op1).1.row? c' k' := by
  rcases C02_applied_only_if_current s op1 cas h1c c k f1 h1 with hno | ⟨_, hnew, _⟩
  · exact absurd hno hw1
  · rcases C02_applied_only_if_current (step s op1).1 op2 cas h2c c k f2 h2 with hno | ⟨hcur, _, _⟩
    · exact hno
    · exfalso
      rw [hnew] at hcur
      have := hlcNow_gt s.hlc s.phys
      omega

/-- SetWithMeta / DeleteWithMeta are conditional on `oldCas` in the same way. -/
theorem C02_withMeta (k : String) (oldCas newCas exp : Nat) (xs : Xattrs) (body : Option String) (j d : Bool)
    (nc now : Nat) (old : Option Row) (r' : Row) (ev : Option Event) (out : Out)
    (h : wmetaRow k oldCas newCas exp xs body j d nc now old = .inr (some r', ev, out)) : casOf old = oldCas :=
  (wmetaRow_inr h).1

/-- Non-vacuity: a stale CAS is refused and changes nothing; the current one is applied. -/
example :
    let s1 := (step initState (.set "c0" "k" 0 false "1" false)).1
    let cur := casOf (s1.row? "c0" "k")
    let stale := step s1 (.wcas "c0" "k" 0 (cur + 7) (some "2") {})
    let good := step s1 (.wcas "c0" "k" 0 cur (some "2") {})
    stale.1.row? "c0" "k" = s1.row? "c0" "k" ∧ (good.1.row? "c0" "k").map (·.value) = some (some "2") := by
  decide

end Rosmar
