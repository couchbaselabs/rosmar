/-
  C04 — CAS values are unique and strictly increasing, whatever the clock does.
-/
import Rosmar.Proofs.Clock
import Rosmar.Proofs.Shape
import Rosmar.Colls
namespace Rosmar

/-- **Whatever the physical clock reads** (standing still, jumping backwards, any value at all), a timestamp drawn
    from the hybrid logical clock is strictly greater than every timestamp it handed out before. -/
theorem C04_now_strictly_increases (highest phys : Nat) : hlcNow highest phys > highest := hlcNow_gt highest phys

/-- Folding any sequence of clock readings yields a strictly increasing sequence of timestamps, all above the seed. -/
def drawAll (highest : Nat) : List Nat → List Nat
  | [] => []
  | p :: ps => hlcNow highest p :: drawAll (hlcNow highest p) ps

theorem C04_any_clock_script (readings : List Nat) : ∀ highest,
    (drawAll highest readings).Pairwise (· < ·) ∧ ∀ x ∈ drawAll highest readings, highest < x := by
  induction readings with
  | nil => exact fun _ => ⟨.nil, fun _ h => nomatch h⟩
  | cons p ps ih =>
    intro h
    -- the first draw exceeds the seed, and is itself the seed of the rest
    obtain ⟨ih1, ih2⟩ := ih (hlcNow h p)
    have hgt := hlcNow_gt h p
    exact ⟨List.pairwise_cons.mpr ⟨ih2, ih1⟩, fun x hx =>
      (List.mem_cons.mp hx).elim (fun e => e ▸ hgt) fun hx => Nat.lt_trans hgt (ih2 x hx)⟩

theorem run_clockInv (ops : List Op) : ClockInv (run initState ops).1 :=
  run_inv clockInv_step ops initState (fun _ _ => trivial) initState_clockInv

/-- Under the clock invariant the next CAS drawn exceeds every CAS committed. -/
theorem ClockInv.acked_lt_draw {s : State} (h : ClockInv s) (phys : Nat) : ∀ x ∈ s.acked, x < hlcNow s.hlc phys := fun x hx => by
  have := h.2.1 x hx
  have := h.2.2.1
  have := hlcNow_gt s.hlc phys
  omega

/-- **Every reachable state, every history** (all entry points, compound calls, WithMeta writes, purges, expiry
    sweeps, draws by other buckets of the process, arbitrary clock scripts): the log of CAS values of committed
    regular-API transactions is strictly increasing in commit order, each is at most the persisted high-water
    mark `bucket.lastCas`, and that mark never exceeds the clock. -/
theorem C04_committed_cas_strictly_increasing (ops : List Op) :
    let s := (run initState ops).1
    s.acked.Pairwise (· > ·) ∧ (∀ x ∈ s.acked, x ≤ s.lastCas) ∧ s.lastCas ≤ s.hlc :=
  let h := run_clockInv ops
  ⟨h.1, h.2.1, h.2.2.1⟩

/-- **Every successful mutation is stamped with the CAS just drawn** (the one exception, a touch, keeps the document's
    CAS), and that CAS enters the committed log: so a later write to a key always carries a larger CAS than an earlier one. -/
theorem C04_mutation_stamped_with_drawn_cas (s : State) (op : Op) (c k : String) (f : RowFn) (h : op.shape = some (.row c k f))
    (r' : Row) (ev : Option Event) (out : Out)
    (hf : f (hlcNow s.hlc s.phys) s.now (s.row? c k) = .inr (some r', ev, out)) :
    (r'.cas = hlcNow s.hlc s.phys ∨ r'.cas = casOf (s.row? c k)) ∧ hlcNow s.hlc s.phys > s.hlc :=
  ⟨((shape_family oneEventPerNewCas_family op c k f h).1 _ _ _ _ _ _ hf).imp (·.1) (·.1), hlcNow_gt _ _⟩

/-- **Close / kill and reopen**: the clock of the reopening process — whatever it read before, 0 for a new process —
    is re-seeded from the persisted high-water mark, so every CAS handed out after the reopen is strictly greater
    than every CAS committed before it. -/
theorem C04_reopen (ops : List Op) (processHlc phys : Nat) :
    ∀ x ∈ (reopen (run initState ops).1 processHlc).acked, x < hlcNow (reopen (run initState ops).1 processHlc).hlc phys :=
  (reopen_clockInv _ processHlc (run_clockInv ops)).acked_lt_draw phys

/-- The invariant survives the reopen, so everything above keeps holding for the history that follows it. -/
theorem C04_reopen_then_run (ops ops' : List Op) (processHlc : Nat) :
    let s := (run (reopen (run initState ops).1 processHlc) ops').1
    s.acked.Pairwise (· > ·) ∧ s.lastCas ≤ s.hlc :=
  let h := run_inv clockInv_step ops' _ (fun _ _ => trivial) (reopen_clockInv _ processHlc (run_clockInv ops))
  ⟨h.1, h.2.2.1⟩

/-- Non-vacuity: the clock stands still, then jumps backwards; three writes still get increasing CAS values. -/
example :
    let s1 := (run initState [.clock 5000000, .set "c0" "a" 0 false "1" false, .set "c0" "b" 0 false "1" false,
                              .clock 1000, .set "c0" "a" 0 false "2" false]).1
    s1.acked = [4980738, 4980737, 4980736] := by
  decide

/-- **Dropping a collection does not lower the marks the clock is re-seeded from**: the bucket's own high-water mark, the
committed log and the clock are untouched, so a reopen after the drop – even of the collection that received the highest CAS –
still hands out only CAS values above everything committed before (`C04_reopen` applies to the state after the drop). -/
theorem C04_drop_keeps_clock_invariant (s : State) (c : String) (h : ClockInv s) : ClockInv (opDropColl s c) :=
  h.frame rfl rfl (Nat.le_refl _) fun p hp => ⟨p, (List.mem_filter.mp hp).1, rfl⟩

theorem C04_create_keeps_clock_invariant (s : State) (c : String) (h : ClockInv s) : ClockInv (opMkColl s c).1 := by
  unfold opMkColl
  split
  · exact h
  · -- the new collection's mark is 0
    refine ⟨h.1, h.2.1, h.2.2.1, fun p hp => (List.mem_append.mp hp).elim (h.2.2.2 p) fun hp => ?_⟩
    rw [List.mem_singleton.mp hp]
    exact Nat.zero_le _

theorem C04_reopen_after_drop (s : State) (c : String) (h : ClockInv s) (processHlc phys : Nat) :
    ∀ x ∈ (reopen (opDropColl s c) processHlc).acked, x < hlcNow (reopen (opDropColl s c) processHlc).hlc phys :=
  (reopen_clockInv _ processHlc (C04_drop_keeps_clock_invariant s c h)).acked_lt_draw phys

end Rosmar
