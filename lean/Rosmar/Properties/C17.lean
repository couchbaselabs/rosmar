/-
  C17 — the revision sequence number counts the mutations of a key.
  Property theorems only; helper lemmas live in Rosmar/Proofs.
-/
import Rosmar.Proofs.Shape
namespace Rosmar

/-- Every row function bumps the revision by one and puts that number in the event it posts. -/
def RevBump (_k : String) (f : RowFn) : Prop :=
  ∀ nc now old r' ev o, f nc now old = .inr (some r', ev, o) → r'.rev = revOf old + 1 ∧ ∀ e, ev = some e → e.rev = r'.rev

theorem revBump_family : Family RevBump :=
  .of_spec (fun _ _ h _ _ _ _ _ _ hf => by obtain ⟨hr, _, rfl, _⟩ := h.wrote hf; exact ⟨hr, fun _ he => by cases he; rfl⟩)
    (fun _ _ _ _ _ _ _ _ hf => by obtain ⟨_, _, rfl, _, rfl, rfl, _⟩ := touchRow_inr hf; exact ⟨rfl, fun _ he => nomatch he⟩)

/-- **C17 (every single-row entry point, every state).** A call either leaves every row exactly as it was
    (it failed, was refused, or was cancelled), or it raises the addressed key's revision number by exactly one —
    starting from 1 for a key that has no row (never written, or purged) — and changes no other key. Touches,
    xattr-only writes, deletions and resurrections are all among the entry points covered. -/
theorem C17_plus_one_per_mutation (s : State) (op : Op) (c k : String) (f : RowFn) (h : op.shape = some (.row c k f)) :
    (∀ c' k', (step s op).1.row? c' k' = s.row? c' k') ∨
    (revOf ((step s op).1.row? c k) = revOf (s.row? c k) + 1 ∧
      ∀ c' k', (c' ≠ c ∨ k' ≠ k) → (step s op).1.row? c' k' = s.row? c' k') :=
  (step_rows s op c k f h).imp_right fun ⟨_, _, _, hf, _, hr, hother⟩ =>
    ⟨by rw [hr]; exact (shape_family revBump_family op c k f h _ _ _ _ _ _ hf).1, hother⟩

/-- A rejected call (argument checks) changes nothing at all. -/
theorem C17_rejected_changes_nothing (s : State) (op : Op) (e : Err) (h : op.shape = some (.rejected e)) :
    (step s op).1 = s := by
  rw [step_rejected s op e h]

/-- The live event of a mutation carries the revision number the row now has. -/
theorem C17_live_event_revno (op : Op) (c k : String) (f : RowFn) (h : op.shape = some (.row c k f))
    (nc now : Nat) (old : Option Row) (r' : Row) (e : Event) (o : Out) (hf : f nc now old = .inr (some r', some e, o)) :
    e.rev = r'.rev :=
  (shape_family revBump_family op c k f h nc now old r' (some e) o hf).2 e rfl

/-- WithMeta writes count too. -/
theorem C17_withMeta (k : String) (oldCas newCas exp : Nat) (xs : Xattrs) (body : Option String) (j d : Bool)
    (hwf : d = body.isNone) (nc now : Nat) (old : Option Row) (r' : Row) (ev : Option Event) (o : Out)
    (h : wmetaRow k oldCas newCas exp xs body j d nc now old = .inr (some r', ev, o)) :
    r'.rev = revOf old + 1 ∧ ∀ e, ev = some e → e.rev = r'.rev := by
  obtain ⟨_, rfl, rfl⟩ := wmetaRow_inr h
  exact ⟨rfl, fun e he => by cases he; rfl⟩

/-- A backfill event reports the stored revision number. -/
theorem C17_backfill_event_revno (k : String) (r : Row) (keysOnly : Bool) : (backfillEvent k r keysOnly).rev = r.rev := rfl

/-- `$document.revid` and the `revid` inside `$document` are that same number. -/
theorem C17_virtual_xattrs (r : Row) :
    Xattrs.get? (requestedXattrs r ["$document.revid"]) "$document.revid" = some ("\"" ++ toString r.rev ++ "\"") ∧
    Xattrs.get? (requestedXattrs r ["$document"]) "$document" =
      some ("{\"value_crc32c\":\"" ++ crcString r.value ++ "\",\"revid\":\"" ++ toString r.rev ++ "\"}") := by
  constructor <;> simp [requestedXattrs, Xattrs.set, Xattrs.get?]

/-- A purge forgets the row, so the next creation starts again from 1. -/
theorem C17_recreated_after_purge_starts_at_one (op : Op) (c k : String) (f : RowFn) (h : op.shape = some (.row c k f))
    (nc now : Nat) (r' : Row) (ev : Option Event) (o : Out) (hf : f nc now none = .inr (some r', ev, o)) : r'.rev = 1 :=
  (shape_family revBump_family op c k f h nc now none r' ev o hf).1

/-- Non-vacuity: a concrete history on which the hypotheses hold and the revision really moves 0 → 1 → 2 → 3. -/
example :
    let s1 := (step initState (.add "c0" "k" 0 "{}" true)).1
    let s2 := (step s1 (.delete "c0" "k")).1
    let s3 := (step s2 (.touch "c0" "k" 0)).1
    let s4 := (step s2 (.add "c0" "k" 0 "{}" true)).1
    revOf (s1.row? "c0" "k") = 1 ∧ revOf (s2.row? "c0" "k") = 2 ∧ revOf (s3.row? "c0" "k") = 2 ∧ revOf (s4.row? "c0" "k") = 3 := by
  decide

end Rosmar
