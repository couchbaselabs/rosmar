/-
  C14 — expiry: documents live until their expiry time and are tombstoned by the sweep the timer runs.
  (That Go's timer actually fires within seconds of its deadline is an assumption; the harness' real-time slice exercises it.)
-/
import Rosmar.Proofs.Expiry
import Rosmar.Proofs.Insert
namespace Rosmar

theorem insertByExp_perm (l : List (String × Row)) : (l.foldr insertByExp []).Perm l :=
  (foldr_insert_perm (ins := insertByExp) (fun _ => rfl) fun x y ys => by simp only [insertByExp]; split <;> simp).2 l

/-- **The timer is always armed early enough** — every reachable state, every history (all write paths, touches,
    PreserveExpiry, deletes, WithMeta writes, sweeps, purges, reopen): if any stored document of any collection has an
    expiry `T`, the expiry manager has a timer pending for some time `≤ T`. So, provided the runtime fires timers, the
    sweep runs no later than `T` without any further client activity. -/
theorem C14_timer_armed_no_later_than_any_expiry (ops : List Op) (p : String × Coll) (hp : p ∈ (run initState ops).1.colls)
    (d : String × Row) (hd : d ∈ p.2.docs) (hexp : d.2.exp > 0) :
    (run initState ops).1.expNext ≠ 0 ∧ (run initState ops).1.expNext ≤ d.2.exp :=
  run_inv expInv_step ops initState (fun _ _ => trivial) initState_expInv p hp d hd hexp

/-- The expiry given is the expiry stored: an offset of at most 30 days is taken from the write's wall clock, anything
    larger is an absolute time, 0 is never. -/
theorem C14_absolute_expiry (now exp : Nat) :
    absExp now exp = (if exp = 0 then 0 else if exp ≤ 60 * 60 * 24 * 30 then now + exp else exp) := by
  unfold absExp maxDeltaTtl
  rcases Nat.eq_zero_or_pos exp with rfl | hpos
  · rfl
  · simp only [gt_iff_lt, hpos, and_true, Nat.ne_of_gt hpos, if_false, Nat.add_comm]

/-- **The expiry in force is the one set by the most recent write or touch, kept by PreserveExpiry, cleared by delete.** -/
theorem C14_expiry_in_force (k : String) (nc now : Nat) (r : Row) :
    (∀ exp v j r' ev o, setRow k exp false v j nc now (some r) = .inr (some r', ev, o) → r'.exp = absExp now exp) ∧
    (∀ exp v j r' ev o, setRow k exp true v j nc now (some r) = .inr (some r', ev, o) → r'.exp = r.exp) ∧
    (∀ exp r' ev o, touchRow exp nc now (some r) = .inr (some r', ev, o) → r'.exp = absExp now exp) ∧
    (∀ ic r' ev o, removeRow k ic nc now (some r) = .inr (some r', ev, o) → r'.exp = 0) ∧
    (∀ names r' ev o, delxRow k names nc now (some r) = .inr (some r', ev, o) → r'.exp = 0) := by
  refine ⟨?_, ?_, ?_, ?_, ?_⟩
  · intro exp v j r' ev o h; cases h; rfl
  · intro exp v j r' ev o h; cases h; rfl
  · intro exp r' ev o h; obtain ⟨_, _, _, _, rfl, _⟩ := touchRow_inr h; rfl
  · intro ic r' ev o h; obtain ⟨_, _, _, rfl⟩ := removeRow_inr h; rfl
  · intro names r' ev o h
    unfold delxRow at h
    dsimp only at h
    split at h <;> cases h
    rfl

/-- **Nothing but the sweep (or an explicit delete) takes a body away**: the sweep only ever runs `Delete`, and only
    on keys whose expiry is due; a key that is not due at `now` is not in the list. -/
theorem C14_only_due_keys_are_swept (docs : Docs) (now : Nat) (k : String) (hk : k ∈ dueKeys docs now) :
    ∃ r, (k, r) ∈ docs ∧ 0 < r.exp ∧ r.exp ≤ now := by
  obtain ⟨d, hd, rfl⟩ := List.mem_map.mp hk
  obtain ⟨h1, h2⟩ := List.mem_filter.mp ((insertByExp_perm _).mem_iff.mp hd)
  exact ⟨d.2, h1, by simpa using h2⟩

/-- The sweep's `Delete` turns a due document into a tombstone with no expiry and posts a deletion event. -/
theorem C14_sweep_delete_tombstones (k : String) (nc now : Nat) (r : Row) :
    ∃ r' e o, removeRow k none nc now (some r) = .inr (some r', some e, o) ∧
      r'.value = none ∧ r'.tomb = true ∧ r'.exp = 0 ∧ e.isDeletion = true ∧ e.key = k := by
  unfold removeRow
  simp only [Option.isSome_none, Bool.false_eq_true, false_and, if_false]
  exact ⟨_, _, _, rfl, rfl, rfl, rfl, rfl, rfl⟩

/-- After a reopen the timer is re-armed from the stored expiries. -/
theorem C14_reopen_rearms (s : State) (processHlc : Nat) (p : String × Coll) (hp : p ∈ (reopen s processHlc).colls)
    (d : String × Row) (hd : d ∈ p.2.docs) (hexp : d.2.exp > 0) :
    (reopen s processHlc).expNext ≠ 0 ∧ (reopen s processHlc).expNext ≤ d.2.exp :=
  reopen_expInv s processHlc p hp d hd hexp

/-- Non-vacuity: two documents with expiries 50 s and 500 s; at +60 s the sweep tombstones exactly the first and
    re-arms for the second. -/
example :
    let s1 := (run initState [.set "c0" "a" 50 false "1" false, .set "c1" "b" 500 false "2" false, .touch "c0" "a" 40]).1
    let s2 := (run s1 [.now 1700000060, .fire]).1
    s1.expNext = 1700000040 ∧ (s2.row? "c0" "a").map (·.tomb) = some true ∧ (s2.row? "c1" "b").map (·.tomb) = some false ∧
      s2.expNext = 1700000500 := by
  decide

end Rosmar
