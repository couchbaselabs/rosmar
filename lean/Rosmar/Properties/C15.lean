/-
  C15 — checkpointed feeds resume without skipping a mutation.
  The unconditional half (the checkpoint never exceeds what was delivered; a resumed run starts right after the
  checkpoint and its backfill holds every newer row) is proved; the coverage half depends on deliveries reaching the feed
  in CAS order, which the code does not guarantee under concurrent writers (F16): proved false by a concrete schedule,
  and stated for the schedules where it holds.
-/
import Rosmar.Sched
import Rosmar.Proofs.FeedLemmas
namespace Rosmar

/-- **The delivered mark is the previous mark or the CAS of something actually delivered**, and it dominates both. -/
theorem deliverMark_spec (items : List FeedItem) : ∀ last,
    (deliverMark last items = last ∨ ∃ it ∈ items, itemCas it = deliverMark last items) ∧
    last ≤ deliverMark last items ∧ ∀ it ∈ items, itemCas it ≤ deliverMark last items := by
  induction items with
  | nil => exact fun last => ⟨.inl rfl, Nat.le_refl _, by simp⟩
  | cons hd tl ih =>
    intro last
    have hcons : deliverMark last (hd :: tl) = deliverMark (if itemCas hd > last then itemCas hd else last) tl := rfl
    simp only [hcons, List.mem_cons, exists_eq_or_imp, forall_eq_or_imp]
    split
    next hgt =>
      obtain ⟨h1, h2, h3⟩ := ih (itemCas hd)
      exact ⟨.inr (h1.imp_left Eq.symm), Nat.le_trans (Nat.le_of_lt hgt) h2, h2, h3⟩
    next hle =>
      obtain ⟨h1, h2, h3⟩ := ih last
      exact ⟨h1.imp_right .inr, h2, Nat.le_trans (Nat.le_of_not_lt hle) h2, h3⟩

/-- **The persisted checkpoint never exceeds the highest CAS the feed actually delivered**: what `stop` persists is the
    feed's delivered mark, which only ever moves to the CAS of a delivered event. -/
theorem C15_checkpoint_never_exceeds_delivered (s : State) (id : String) (f : Feed) (hf : s.feeds.find? (fun g => g.id = id) = some f)
    (hdump : f.dump = false) :
    let mark := deliverMark f.lastCas f.pending
    (mark = f.lastCas ∨ ∃ it ∈ f.pending, itemCas it = mark) ∧
    (∀ g ∈ (opDrain s id).1.feeds, g.id = id → g.lastCas = mark) := by
  refine ⟨(deliverMark_spec f.pending f.lastCas).1, ?_⟩
  intro g hg hid
  unfold opDrain at hg
  rw [hf] at hg
  simp only [hdump, Bool.false_eq_true, if_false, List.mem_map] at hg
  obtain ⟨g0, _, rfl⟩ := hg
  by_cases h0 : g0.id = id
  · simp [h0]
  · simp [h0] at hid

theorem opStartFeed_resume_pending (s : State) (id c pfx : String) (ko : Bool) (x : Coll) (hx : s.coll? c = some x) :
    (∃ f ∈ (opStartFeed s id c .resume false ko pfx).1.feeds, f.id = id) ∧
    ∀ f ∈ (opStartFeed s id c .resume false ko pfx).1.feeds, f.id = id →
      f.pending = .beginBackfill :: (backfillRows x.docs (readCheckpoint s c pfx id + 1)).map
        (fun d => .ev (backfillEvent d.1 d.2 ko) x.id false) ++ [.endBackfill] := by
  unfold opStartFeed
  rw [hx]
  simp only [Bool.false_eq_true, if_false, List.mem_append, List.mem_filter, List.mem_singleton]
  refine ⟨⟨_, .inr rfl, rfl⟩, ?_⟩
  rintro f (⟨_, hne⟩ | rfl) hid
  · simp [hid] at hne
  · rfl

/-- **A resumed run starts right after the checkpoint and its backfill holds every row newer than the checkpoint.** -/
theorem C15_resume_backfill_covers_everything_newer (s : State) (id c pfx : String) (ko : Bool) (x : Coll) (hx : s.coll? c = some x)
    (d : String × Row) (hd : d ∈ x.docs) (hnew : d.2.cas > readCheckpoint s c pfx id) :
    ∃ f ∈ (opStartFeed s id c .resume false ko pfx).1.feeds, f.id = id ∧
      FeedItem.ev (backfillEvent d.1 d.2 ko) x.id false ∈ f.pending := by
  obtain ⟨⟨f, hf, hid⟩, h⟩ := opStartFeed_resume_pending s id c pfx ko x hx
  refine ⟨f, hf, hid, ?_⟩
  rw [h f hf hid]
  exact List.mem_append_left _ (List.mem_cons_of_mem _ (List.mem_map.mpr ⟨d, (mem_backfillRows ..).mpr ⟨hd, hnew⟩, rfl⟩))

/-- **What a resumed run can never deliver**: every event of its backfill has a CAS above the checkpoint. So a version
    whose CAS is at or below the checkpoint and that was *not* delivered before the stop is skipped for good. -/
theorem C15_resume_delivers_only_newer (s : State) (id c pfx : String) (ko : Bool) (x : Coll) (hx : s.coll? c = some x)
    (f : Feed) (hf : f ∈ (opStartFeed s id c .resume false ko pfx).1.feeds) (hid : f.id = id) :
    ∀ it ∈ f.pending, itemCas it = 0 ∨ itemCas it > readCheckpoint s c pfx id := by
  intro it hit
  rw [(opStartFeed_resume_pending s id c pfx ko x hx).2 f hf hid] at hit
  simp only [List.mem_cons, List.mem_append, List.mem_map, List.not_mem_nil, or_false] at hit
  rcases hit with (rfl | ⟨d, hd, rfl⟩) | rfl
  · exact .inl rfl
  · exact .inr ((mem_backfillRows ..).mp hd).2
  · exact .inl rfl

/-- C15's coverage clause, in the bookkeeping's own terms: whatever order events reach a feed in, everything committed is
    either delivered before the stop or newer than the checkpoint the stop persists (and so delivered by the next run). -/
def C15_cover_full : Prop :=
  ∀ (committed deliveredBeforeStop : List Nat), (∀ x ∈ deliveredBeforeStop, x ∈ committed) →
    ∀ x ∈ committed, x ∈ deliveredBeforeStop ∨ x > deliverMark 0 (deliveredBeforeStop.map (fun cas =>
      FeedItem.ev { key := "", value := none, isDeletion := false, isJSON := false, xattrs := [], cas := cas, exp := 0, rev := 0 } 0 false))

/-- **It is false** as soon as deliveries can overtake one another (C08_order_full_false): CAS 1 and CAS 2 are committed,
    the feed is given CAS 2 first and is stopped — the checkpoint is 2 and CAS 1 is skipped (`C15_resume_delivers_only_newer`). -/
theorem C15_cover_full_false : ¬ C15_cover_full := by
  intro h
  have := h [1, 2] [2] (by decide) 1 (by decide)
  revert this
  decide

/-- **It holds for in-order delivery**: if what was delivered before the stop is a prefix of the committed CAS values in
    increasing order, everything else is newer than the checkpoint. -/
theorem C15_cover_partial (delivered rest : List Nat) (hsorted : (delivered ++ rest).Pairwise (· < ·))
    (hpos : ∀ x ∈ delivered ++ rest, x > 0) :
    ∀ x ∈ delivered ++ rest, x ∈ delivered ∨ x > deliverMark 0 (delivered.map (fun cas =>
      FeedItem.ev { key := "", value := none, isDeletion := false, isJSON := false, xattrs := [], cas := cas, exp := 0, rev := 0 } 0 false)) := by
  intro x hx
  rcases List.mem_append.mp hx with h | h
  · exact Or.inl h
  · right
    generalize hL : delivered.map _ = L
    rcases (deliverMark_spec L 0).1 with h0 | ⟨it, hit, he⟩
    · rw [h0]; exact hpos x hx
    · subst hL
      obtain ⟨cas, hc, rfl⟩ := List.mem_map.mp hit
      rw [← he]
      exact (List.pairwise_append.mp hsorted).2.2 cas hc x h

end Rosmar
