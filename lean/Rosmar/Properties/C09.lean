/-
  C09 — backfill is a faithful snapshot (the "no gap while starting" part is schedule-level: known finding F16).
-/
import Rosmar.Proofs.FeedLemmas
import Rosmar.Proofs.RowSpecs
namespace Rosmar

/-- **Between the markers, in CAS order, exactly the current version of every document (tombstones included) whose
    CAS is at least the start CAS** — one event per stored row. -/
theorem C09_snapshot (s : State) (id c : String) (start : Nat) (ko : Bool) (x : Coll) (hx : s.coll? c = some x) :
    ∃ rows : List (String × Row),
      ((opStartFeed s id c (.from start) false ko).1.feeds.getLast?.map (·.pending)) =
        some ([.beginBackfill] ++ rows.map (fun d => .ev (backfillEvent d.1 d.2 ko) x.id false) ++ [.endBackfill]) ∧
      rows.Pairwise (fun a b => a.2.cas ≤ b.2.cas) ∧
      rows.Perm (x.docs.filter (fun d => d.2.cas ≥ start)) ∧
      (∀ p, p ∈ rows ↔ p ∈ x.docs ∧ p.2.cas ≥ start) := by
  refine ⟨backfillRows x.docs start, ?_, sortByCas_sorted _, insertByCas_perm.2 _, mem_backfillRows x.docs start⟩
  unfold opStartFeed
  rw [hx]
  simp

/-- **Each backfilled event describes the document's current state exactly as a live event for that state does**:
    in a coherent state (every reachable one) the backfill event of a row is the faithful event `eventOf`, which is
    what every live mutation posts (C08). -/
theorem C09_backfill_event_equals_live_event (k : String) (r : Row) (hco : RowCoh r) :
    backfillEvent k r false = eventOf k r := by
  unfold backfillEvent eventOf RowCoh at *
  simp only [Bool.false_eq_true, if_false]
  congr 1
  exact Bool.eq_iff_iff.mpr (hco.trans Option.isNone_iff_eq_none.symm)

/-- With `KeysOnly` no value or xattrs leave the store. -/
theorem C09_keys_only (k : String) (r : Row) : (backfillEvent k r true).value = none ∧ (backfillEvent k r true).xattrs = [] := by
  simp [backfillEvent]

/-- A dump feed is not registered for live events. -/
theorem C09_dump_not_live (s : State) (c : String) (id : Nat) (e : Event) (f : Feed) (hf : f ∈ s.feeds) (hd : f.dump = true) :
    f ∈ (postEvent s c id e).feeds :=
  List.mem_map.mpr ⟨f, hf, if_neg fun h => h.2.1 hd⟩

/-- Non-vacuity: three documents, one deleted; backfill from the second CAS. -/
example :
    let s := (run initState [.clock 2000000, .set "c0" "a" 0 false "1" false, .clock 3000000, .set "c0" "b" 0 false "2" false,
                             .clock 4000000, .delete "c0" "a", .startFeed "d" "c0" (.from 2949120) true false]).1
    (s.feeds.getLast?.map (fun f => f.pending.length)) = some 4 := by
  decide

end Rosmar
