/-
  C05 — tombstone coherence: deleted means no body, for every observer and every path.
-/
import Rosmar.Proofs.Insert
namespace Rosmar

/-- **The invariant, for every reachable state.** After any well-formed operation history (every entry point,
    including compound calls, purges and the expiry sweep), every stored row of every collection has the tombstone
    flag set exactly when it has no body. -/
theorem C05_tombstone_iff_no_body (ops : List Op) (hwf : ∀ op ∈ ops, op.WF) (c : String) (x : Coll)
    (hx : (run initState ops).1.coll? c = some x) (k : String) (r : Row) (hr : x.docs.get? k = some r) :
    r.tomb = true ↔ r.value = none :=
  ((run_coh ops hwf).coll hx).get hr

/-- **Every observer agrees** (each is a function of the stored row; with the invariant they all say the same):
    reads report a tombstone missing, `GetWithXattrs` returns no body, a backfilled event carries the deletion
    opcode, an insert-style write treats it as absent. -/
theorem C05_observers_agree (s : State) (hs : StateAll RowCoh s) (c k : String) (x : Coll) (hx : s.coll? c = some x)
    (r : Row) (hr : s.row? c k = some r) (names : List String) :
    (r.tomb = true ↔ (getRaw s c k).1 = .missing) ∧
    (r.tomb = true ↔ exists_ s c k = false) ∧
    (r.tomb = true ↔ (getWithXattrs s c k names).2.1 = none) ∧
    (r.tomb = true ↔ (backfillEvent k r false).isDeletion = true) ∧
    (r.tomb = true ↔ (eventOf k r).isDeletion = true) ∧
    (r.tomb = true ↔ ∀ exp v j nc now, ∃ r' ev o, addRow k exp v j nc now (some r) = .inr (some r', ev, o)) := by
  have hco : RowCoh r := hs.row hr
  unfold RowCoh at hco
  refine ⟨?_, ?_, ?_, ?_, ?_, ?_⟩
  · rw [hco]; unfold getRaw; rw [hr]; cases hv : r.value <;> simp [hv]
  · rw [hco]; unfold exists_; rw [hr]; cases hv : r.value <;> simp [hv]
  · rw [hco]; unfold getWithXattrs; rw [hr]; dsimp only
    split
    · rename_i h; simpa using h.1
    · exact Iff.rfl
  · simp [backfillEvent]
  · rw [hco]; simp [eventOf]
  · -- `Add` looks at the flag alone
    constructor
    · intro ht exp v j nc now
      rcases addRow_cases k exp v j nc now (some r) with ⟨_, r', ev, hf, _⟩ | ⟨⟨_, hr0, ht0⟩, _⟩
      · exact ⟨r', ev, _, hf⟩
      · cases hr0; rw [ht] at ht0; cases ht0
    · intro h
      obtain ⟨_, _, _, hf⟩ := h 0 "" false 0 0
      rcases addRow_cases k 0 "" false 0 0 (some r) with ⟨ht, _⟩ | ⟨_, hf'⟩
      · exact ht r rfl
      · rw [hf'] at hf; cases hf

/-- **Delete / Remove keep system xattrs, drop user xattrs and the expiry.** -/
theorem C05_delete_keeps_system_drops_user_and_expiry (k : String) (ifCas : Option Nat) (nc now : Nat) (r : Row) (r' : Row)
    (ev : Option Event) (o : Out) (h : removeRow k ifCas nc now (some r) = .inr (some r', ev, o)) :
    r'.value = none ∧ r'.tomb = true ∧ r'.exp = 0 ∧ r'.xattrs = r.xattrs.filter (fun p => Xattrs.isSystemName p.1) := by
  obtain ⟨_, hr, _, rfl⟩ := removeRow_inr h
  cases hr
  exact ⟨rfl, rfl, rfl, rfl⟩

/-- **A body written onto a tombstone yields a live document with none of the tombstone's xattrs**: through the
    body-only entry points no xattr at all survives … -/
theorem C05_resurrection_clears_xattrs (r : Row) (ht : r.tomb = true) (hco : RowCoh r) (k : String) (nc now : Nat) :
    (∀ exp v j r' ev o, addRow k exp v j nc now (some r) = .inr (some r', ev, o) → r'.xattrs = [] ∧ r'.tomb = false ∧ r'.value = some v) ∧
    (∀ exp pe v j r' ev o, setRow k exp pe v j nc now (some r) = .inr (some r', ev, o) → r'.xattrs = [] ∧ r'.tomb = false ∧ r'.value = some v) ∧
    (∀ exp cas v o r' ev out, wcasRow k exp cas (some v) o nc now (some r) = .inr (some r', ev, out) → r'.xattrs = [] ∧ r'.tomb = false) := by
  have hv : r.value = none := hco.mp ht
  refine ⟨?_, ?_, ?_⟩
  · intro exp v j r' ev o h
    rcases addRow_cases k exp v j nc now (some r) with ⟨_, _, _, hf, hv', hx, ht'⟩ | ⟨_, hf⟩
    · rw [hf] at h; cases h; exact ⟨hx, ht', hv'⟩
    · rw [hf] at h; cases h
  · intro exp pe v j r' ev o h
    cases h
    simp [hv]
  · intro exp cas v o r' ev out h
    rw [(wcasRow_inr h).1]
    simp [ht]

/-- … and through `writeWithXattrs` with a body only the xattrs the call itself sets: the edits are applied to an
    empty map, whatever the tombstone carried. -/
theorem C05_resurrection_with_xattrs (r : Row) (ht : r.tomb = true) (k b : String) (edits : List XEdit) (ifCas exp : Option Nat)
    (o : XOpts) (m : Macros) (nc now : Nat) (r' : Row) (ev : Option Event) (out : Out)
    (h : wwxRow k (.body b) edits ifCas exp o m nc now (some r) = .inr (some r', ev, out)) :
    applyEdits [] edits m nc (some b) = .inr r'.xattrs ∧ r'.tomb = false ∧ r'.value = some b := by
  obtain ⟨_, _, _, _, _, _, hpre, _, hv, htomb, _, _, _, hx, _⟩ := wwxRow_inr h
  obtain ⟨_, _, _, _, rfl, _⟩ := wwxPre_inr hpre
  simp only [wwxBody, ht, ValArg.isBody, and_self, if_true, Option.map_some, Option.getD_some] at hv hx
  rw [hv] at hx htomb
  exact ⟨hx, htomb, hv⟩

/-- **PurgeTombstones removes exactly the tombstones**: precisely the rows without a body disappear, every other
    row stays as it is. -/
theorem C05_purge_removes_exactly_tombstones (s : State) (p : String × Coll) (hp : p ∈ (opPurge s).1.colls) :
    ∃ q ∈ s.colls, p.1 = q.1 ∧ p.2.docs = q.2.docs.filter (fun d => d.2.value.isSome) := by
  unfold opPurge at hp
  simp only [List.mem_map] at hp
  obtain ⟨q, hq, rfl⟩ := hp
  exact ⟨q, hq, rfl, rfl⟩

/-- Non-vacuity: a history that deletes and re-creates through different entry points; the historical drift
    (`Set` over a tombstone leaving the flag set) is gone. -/
example :
    let s1 := (step initState (.wwx "c0" "k" 0 0 (some "{}") [("_sync", some "1"), ("usr", some "2")] none false [])).1
    let s2 := (step s1 (.delete "c0" "k")).1
    let s3 := (step s2 (.set "c0" "k" 0 false "{}" false)).1
    (s2.row? "c0" "k").map (fun r => (r.tomb, r.value, r.xattrs)) = some (true, none, [("_sync", "1")]) ∧
    (s3.row? "c0" "k").map (fun r => (r.tomb, r.value, r.xattrs)) = some (false, some "{}", []) := by
  decide

end Rosmar
