/-
  C07 — body and xattrs are independent; a combined write is all-or-nothing.
-/
import Rosmar.Proofs.XattrLemmas
import Rosmar.Proofs.Shape
namespace Rosmar

/-- **An xattr write changes exactly the named xattrs**: through every xattr entry point (`SetXattrs`, `UpdateXattrs`,
    `RemoveXattrs`, `WriteWithXattrs`, `WriteTombstoneWithXattrs`, `WriteResurrectionWithXattrs`, `UpdateXattrDeleteBody`,
    each step of `WriteUpdateWithXattrs` — all are `writeWithXattrs`), an xattr whose name is not among the edits has,
    after the call, byte-for-byte the value `writeWithXattrs` started from. -/
theorem C07_unnamed_xattrs_intact (k : String) (val : ValArg) (edits : List XEdit) (ifCas exp : Option Nat) (o : XOpts) (m : Macros)
    (nc now : Nat) (old : Option Row) (r' : Row) (ev : Option Event) (out : Out)
    (h : wwxRow k val edits ifCas exp o m nc now old = .inr (some r', ev, out)) (n : String) (hn : ∀ e ∈ edits, e.1 ≠ n) :
    ∃ value0 isJSON0 prevCas exp0 xattrs0 rev0, wwxPre val ifCas o old = .inr (value0, isJSON0, prevCas, exp0, xattrs0, rev0) ∧
      Xattrs.get? r'.xattrs n = Xattrs.get? (wwxBody val value0 isJSON0 xattrs0).2.2 n := by
  obtain ⟨v0, j0, c0, e0, x0, r0, hpre, _, _, _, hc, _, _, hx, _⟩ := wwxRow_inr h
  exact ⟨v0, j0, c0, e0, x0, r0, hpre, applyEdits_frame edits m _ _ _ _ hx n hn⟩

/-- … in particular, on a live document whose body is kept or replaced, it is the old value of that xattr. -/
theorem C07_unnamed_xattrs_intact_live (k : String) (val : ValArg) (hval : val ≠ .delete) (edits : List XEdit) (ifCas exp : Option Nat)
    (o : XOpts) (m : Macros) (nc now : Nat) (r : Row) (hlive : r.tomb = false) (r' : Row) (ev : Option Event) (out : Out)
    (h : wwxRow k val edits ifCas exp o m nc now (some r) = .inr (some r', ev, out)) (n : String) (hn : ∀ e ∈ edits, e.1 ≠ n) :
    Xattrs.get? r'.xattrs n = Xattrs.get? r.xattrs n := by
  obtain ⟨value0, isJSON0, prevCas, exp0, xattrs0, rev0, hpre, hget⟩ := C07_unnamed_xattrs_intact k val edits ifCas exp o m nc now (some r) r' ev out h n hn
  obtain ⟨_, _, _, _, rfl, _⟩ := wwxPre_inr hpre
  rw [hget]
  cases val with
  | delete => exact absurd rfl hval
  | _ => simp [wwxBody, hlive]

/-- **… and leaves the body and the expiry intact unless given.** -/
theorem C07_body_and_expiry_intact_unless_given (k : String) (edits : List XEdit) (ifCas : Option Nat) (o : XOpts) (m : Macros)
    (nc now : Nat) (r : Row) (r' : Row) (ev : Option Event) (out : Out)
    (h : wwxRow k .keep edits ifCas none o m nc now (some r) = .inr (some r', ev, out)) :
    r'.value = r.value ∧ r'.exp = r.exp := by
  obtain ⟨_, _, _, _, _, _, hpre, _, hv, _, _, he, _⟩ := wwxRow_inr h
  obtain ⟨rfl, _, rfl, _⟩ := wwxPre_inr hpre
  exact ⟨hv, he⟩

/-- **A body-only write to a live document leaves its xattrs intact.** -/
theorem C07_body_write_keeps_xattrs (k : String) (r : Row) (hco : RowCoh r) (hlive : r.value ≠ none) (nc now : Nat) :
    (∀ exp pe v j r' ev o, setRow k exp pe v j nc now (some r) = .inr (some r', ev, o) → r'.xattrs = r.xattrs) ∧
    (∀ a d e r' ev o, incrRow k a d e nc now (some r) = .inr (some r', ev, o) → r'.xattrs = r.xattrs) ∧
    (∀ e c v o r' ev out, wcasRow k e c (some v) o nc now (some r) = .inr (some r', ev, out) → r'.xattrs = r.xattrs) := by
  -- `Set` and `Incr` store the row `setCore` builds, which keeps the xattrs of a row that has a body
  have hset : ∀ e pe v j, (setCore (some r) e pe v j nc).1.xattrs = r.xattrs := by
    simp [setCore, Option.isSome_iff_ne_none.mpr hlive]
  refine ⟨?_, ?_, ?_⟩
  · intro exp pe v j r' ev o h
    cases h
    exact hset ..
  · intro a d e r' ev o h
    unfold incrRow at h
    dsimp only at h
    split at h <;> cases h
    exact hset ..
  · intro e c v o r' ev out h
    have ht : r.tomb = false := Bool.eq_false_iff.mpr fun ht => hlive (hco.mp ht)
    rw [(wcasRow_inr h).1]
    simp [ht]

/-- **All of it under one new CAS, or none of it**: a combined call either stores one row carrying the new body, all
    xattr edits, the expiry, the revision and the CAS just drawn — in one row update — or, for whatever reason it fails
    (CAS mismatch, missing xattr, bad JSON, oversize), changes no row of any collection. -/
theorem C07_all_or_nothing (s : State) (op : Op) (c k : String) (f : RowFn) (h : op.shape = some (.row c k f)) :
    (∀ c' k', (step s op).1.row? c' k' = s.row? c' k') ∨
    (∃ r' ev out, f (hlcNow s.hlc s.phys) s.now (s.row? c k) = .inr (some r', ev, out) ∧
      (step s op).1.row? c k = some (storedRow (s.row? c k) s.nextRowId r')) :=
  (step_rows s op c k f h).imp_right fun ⟨r', ev, out, hf, _, hr, _⟩ => ⟨r', ev, out, hf, hr⟩

/-- **Macro expansions resolve to that same new CAS and to the checksum of the body as stored**: the edits (and their
    macros) are evaluated against exactly the CAS and the body of the row that is stored. -/
theorem C07_macros_use_stored_cas_and_body (k : String) (val : ValArg) (edits : List XEdit) (ifCas exp : Option Nat) (o : XOpts) (m : Macros)
    (nc now : Nat) (old : Option Row) (r' : Row) (ev : Option Event) (out : Out)
    (h : wwxRow k val edits ifCas exp o m nc now old = .inr (some r', ev, out)) :
    ∃ start, applyEdits start edits m r'.cas r'.value = .inr r'.xattrs := by
  obtain ⟨_, _, _, _, _, _, _, _, _, _, hc, _, _, hx, _⟩ := wwxRow_inr h
  exact ⟨_, hc ▸ hx⟩

/-- Non-vacuity: remove one xattr of a document that has two; the other one, the body and the expiry are untouched;
    removing an xattr that is not there fails and changes nothing. -/
example :
    let s1 := (step initState (.wmeta "c0" "k" 0 100 77 [("_sync", "1"), ("usr", "2")] (some "{}") true false)).1
    let s2 := (step s1 (.rmx "c0" "k" ["usr"] 100)).1
    let s3 := (step s2 (.rmx "c0" "k" ["usr"] 1048576)).1
    (s2.row? "c0" "k").map (fun r => (r.value, r.exp, r.xattrs)) = some (some "{}", 77, [("_sync", "1")]) ∧
    s3.row? "c0" "k" = s2.row? "c0" "k" := by
  decide

end Rosmar
