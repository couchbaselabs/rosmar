/-
  C03 — concurrent operations are linearizable.
  What is proved is about lists of atomic actions of the model; that an atomic action of the model is atomic in the
  implementation (one critical section under the bucket mutex inside BEGIN IMMEDIATE … COMMIT; a read is one SELECT)
  is the assumption, exercised by the forced-schedule check through the instrumentation points.
-/
import Rosmar.Proofs.Lin
import Rosmar.Proofs.Insert
namespace Rosmar

/-- **The version a callback was shown stays identified by its CAS, whatever else happens in between.** Take any state
    in which `(c, k)` carries CAS `cas0` (already handed out by the clock) with body `b0` and xattrs `x0`, and let *any*
    sequence of regular operations by any number of other callers run — reads, blind writes, CAS writes, Incr, Update
    loops, deletes, xattr writes, touches, expiry sweeps, feeds. If afterwards the key still carries CAS `cas0`, it still
    has exactly body `b0` and xattrs `x0`. -/
theorem C03_cas_identifies_the_version (c k : String) (cas0 : Nat) (b0 : Option String) (x0 : Xattrs)
    (s : State) (hle : cas0 ≤ s.hlc) (hb : (s.row? c k).bind (·.value) = b0)
    (hx : ((s.row? c k).map (·.xattrs)).getD [] = x0) (env : List Op) (henv : ∀ op ∈ env, op.Regular) :
    casOf ((run s env).1.row? c k) = cas0 →
      ((run s env).1.row? c k).bind (·.value) = b0 ∧ (((run s env).1.row? c k).map (·.xattrs)).getD [] = x0 :=
  (run_inv (versionInv_step c k cas0 b0 x0) env s henv ⟨hle, fun _ => ⟨hb, hx⟩⟩).2

/-- **Update / WriteUpdateWithXattrs / WriteSubDoc never lose an update**: the write that ends an iteration of their
    loop is `WriteCas` (resp. `writeWithXattrs`) conditional on the CAS read at the start of that iteration; after any
    interference `env` it is applied only if the key still carries that CAS (C02) — hence, by the theorem above, only on
    top of exactly the body and xattrs the callback was shown. Otherwise it changes nothing and the loop reads again. -/
theorem C03_callback_result_stored_only_on_version_shown (c k : String) (exp : Nat) (v : Option String)
    (s : State) (cas0 : Nat) (hpos : cas0 ≠ 0) (hle : cas0 ≤ s.hlc) (hcas : casOf (s.row? c k) = cas0)
    (env : List Op) (henv : ∀ op ∈ env, op.Regular) :
    let s' := (run s env).1
    (∀ c' k', (step s' (.wcas c k exp cas0 v {})).1.row? c' k' = s'.row? c' k') ∨
    (s'.row? c k).bind (·.value) = (s.row? c k).bind (·.value) ∧
      ((s'.row? c k).map (·.xattrs)).getD [] = ((s.row? c k).map (·.xattrs)).getD [] := by
  intro s'
  refine (step_rows s' (.wcas c k exp cas0 v {}) c k _ rfl).imp_right fun ⟨r', ev, out, hf, _⟩ => ?_
  exact C03_cas_identifies_the_version c k cas0 _ _ s hle rfl rfl env henv (wcasRow_writesOnVersion hpos rfl _ _ _ _ _ _ hf).1

/-- **Incr never loses an increment**: it is one atomic action — the read of the counter happens inside the same
    transaction as its write (`incrRow` receives the row and returns the row) — so `n` of them, however interleaved
    with each other, add up. -/
theorem C03_incr_is_one_atomic_action (s : State) (c k : String) (amt d exp : Nat) :
    (Op.incr c k amt d exp).shape = some (.row c k (incrRow k amt d exp)) := rfl

theorem C03_incrs_add_up (k : String) (nc now : Nat) (r : Row) (n amt : Nat) (hv : r.value = some (toString n)) (hn : parseUInt64 (toString n) = some n)
    (d exp : Nat) : ∃ r' ev, incrRow k amt d exp nc now (some r) = .inr (some r', ev, { n := (n + amt) % 2 ^ 64 }) ∧
      r'.value = some (toString ((n + amt) % 2 ^ 64)) := by
  unfold incrRow
  simp only [hv, hn, setCore]
  exact ⟨_, _, rfl, rfl⟩

/-- **A read is one atomic action that changes nothing**; a failed attempt changes no document (C01). -/
theorem C03_reads_change_nothing (s : State) (c k : String) (names : List String) : (step s (.rb c k names)).1 = s := rfl

/-- Non-vacuity: the interleaving `read; other writer; conditional write` — the stale write is refused, the retry wins. -/
example :
    let s0 := (run initState [.set "c0" "k" 0 false "1" false]).1
    let cas0 := casOf (s0.row? "c0" "k")
    let s1 := (run s0 [.set "c0" "k" 0 false "2" false]).1
    let stale := step s1 (.wcas "c0" "k" 0 cas0 (some "from-1") {})
    stale.1.row? "c0" "k" = s1.row? "c0" "k" ∧ casOf (s1.row? "c0" "k") ≠ cas0 := by
  decide

end Rosmar
