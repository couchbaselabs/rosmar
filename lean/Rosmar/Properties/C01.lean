/-
  C01 — key-value read-after-write: every read returns the last successful write.
-/
import Rosmar.Proofs.Insert
namespace Rosmar

/-- **Reads are projections of the single stored version of the key**: body, CAS and expiry of `GetRaw`/`Get`,
    `Exists`, `GetExpiry`, `GetWithXattrs` all come from the same row; a key without a row (never written, or purged)
    and a row without a body (deleted) are reported missing. -/
theorem C01_reads_return_the_stored_version (s : State) (c k : String) (names : List String) :
    (match s.row? c k with
     | none =>
        getRaw s c k = (.missing, none, 0) ∧ exists_ s c k = false ∧ getExpiry s c k = (.missing, 0) ∧
        getWithXattrs s c k names = (.missing, none, 0, none)
     | some r =>
        getExpiry s c k = (.ok, r.exp) ∧
        (match r.value with
         | some b => getRaw s c k = (.ok, some b, r.cas) ∧ exists_ s c k = true ∧
                     (getWithXattrs s c k names).1 = .ok ∧ (getWithXattrs s c k names).2.1 = some b ∧ (getWithXattrs s c k names).2.2.1 = r.cas
         | none => getRaw s c k = (.missing, none, r.cas) ∧ exists_ s c k = false ∧ (getWithXattrs s c k names).2.1 = none)) := by
  unfold getRaw exists_ getExpiry getWithXattrs
  cases s.row? c k with
  | none => simp
  | some r =>
    cases hv : r.value with
    | none => simp [hv]; split <;> simp
    | some b => simp [hv]

/-- **The version a key holds is the one its most recent successful mutation stored**: a single-row call either
    leaves every row alone, or stores the row its row function computed under the addressed key and leaves every
    other key of every collection alone. By induction over a history, what a read of `(c', k')` returns is what the
    last call that wrote `(c', k')` stored. -/
theorem C01_last_successful_write_wins (s : State) (op : Op) (c k : String) (f : RowFn) (h : op.shape = some (.row c k f)) :
    (∀ c' k', (step s op).1.row? c' k' = s.row? c' k') ∨
    (∃ r' ev out, f (hlcNow s.hlc s.phys) s.now (s.row? c k) = .inr (some r', ev, out) ∧
      (step s op).1.row? c k = some (storedRow (s.row? c k) s.nextRowId r') ∧
      ∀ c' k', (c' ≠ c ∨ k' ≠ k) → (step s op).1.row? c' k' = s.row? c' k') :=
  (step_rows s op c k f h).imp_right fun ⟨r', ev, out, hf, _, hr, ho⟩ => ⟨r', ev, out, hf, hr, ho⟩

/-- **An operation that returns an error leaves every document exactly as it was** — every single-row entry point … -/
theorem C01_error_leaves_everything_unchanged (s : State) (op : Op) (c k : String) (f : RowFn) (h : op.shape = some (.row c k f))
    (out : Out) (hout : (step s op).2 = .out out) (herr : out.err ≠ .ok) :
    ∀ c' k', (step s op).1.row? c' k' = s.row? c' k' := by
  rcases step_rows s op c k f h with hr | ⟨r', ev, out', hf, hout', _⟩
  · exact hr
  · rw [hout] at hout'; cases hout'
    exact absurd (shape_family okOnWrite_family op c k f h _ _ _ _ _ _ hf) herr

/-- … and every call rejected by its argument checks. -/
theorem C01_rejected_call_changes_nothing (s : State) (op : Op) (e : Err) (h : op.shape = some (.rejected e)) :
    step s op = (s, .out { err := e }) := step_rejected s op e h

/-- The CAS a write returns is the CAS reads then report. -/
theorem C01_returned_cas_is_stored_cas (s : State) (c k : String) (exp cas : Nat) (v : Option String) (o : WOpts)
    (out : Out) (hout : (step s (.wcas c k exp cas v o)).2 = .out out) (hok : out.err = .ok) (x : Coll) (hx : s.coll? c = some x) :
    (getRaw (step s (.wcas c k exp cas v o)).1 c k).2.2 = out.cas := by
  obtain ⟨out', hout', ho⟩ := step_outcome s (.wcas c k exp cas v o) c k _ rfl
  rw [hout] at hout'; cases hout'
  cases ho with
  | noColl _ _ hc => rw [hok] at hc; cases hc
  | failed hf _ => exact absurd hok (wcasRow_inl hf)
  | unchanged _ hf _ => exact absurd hf wcasRow_ne_idle
  | wrote r' ev hf hr _ =>
    -- the CAS returned and the CAS stored are both the one just drawn
    obtain ⟨rfl, _, rfl, _⟩ := wcasRow_inr hf
    unfold getRaw
    rw [hr]
    dsimp only [storedRow]
    split <;> rfl

/-- Non-vacuity: `Set`, a failing `WriteCas`, a read. -/
example :
    let s1 := (step initState (.set "c0" "k" 7 false "{\"a\":1}" false)).1
    let r2 := step s1 (.wcas "c0" "k" 0 12345 (some "x") {})
    getRaw r2.1 "c0" "k" = (.ok, some "{\"a\":1}", 1048576) ∧ getExpiry r2.1 "c0" "k" = (.ok, 1700000007) ∧
      r2.1.row? "c0" "k" = s1.row? "c0" "k" := by
  decide

end Rosmar
