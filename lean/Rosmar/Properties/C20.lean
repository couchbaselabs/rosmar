import Rosmar.Proofs.LockOrder
import Rosmar.Gen.Facts

/-!
# C20 — Shutdown is safe: no panic, deadlock or leaked goroutine at any timing

Two models carry the logic of this property (the rest – that a real goroutine really exits, that `database/sql` really returns an
error – is runtime behaviour the forced-schedule scenarios observe on the real process):

* `Rosmar.Shutdown.step`: the atomic actions between instrumentation points and their effect on "store open / timer armed /
  feed goroutines / panicked";
* the lock-order graph **regenerated from /repo** (`Rosmar.Gen.lockEdges`) with the general theorem that a ranking rising along
  every edge excludes deadlock.

The full statement was false of the pinned code in three ways, each shown on the real process by a forced schedule. Two were
repaired in /repo (the timer callback / re-arming after the shutdown – 526ea24; the expiry-mutex ⇄ bucket-mutex deadlock of
`CloseAndDelete` – 1734add) and the model follows the repaired code; the third (a feed registration that completes after the
shutdown leaves its goroutine running) is an open known finding whose model-level witness is in `Properties/C20Known.lean`.
-/

namespace Rosmar.Shutdown

/-- Actions that arrive after the store was shut and are refused under the bucket mutex. -/
def Refused : Act → Prop
  | .txn => True
  | .closeHandle => True
  | _ => False

theorem run_append (s : St) (as bs : List Act) : run s (as ++ bs) = run (run s as) bs := by
  unfold run; rw [List.foldl_append]

theorem run_induction {I : St → Prop} {s : St} (as : List Act) (hs : I s)
    (hstep : ∀ s, I s → ∀ a ∈ as, I (step s a)) : I (run s as) :=
  List.foldlRecOn as step hs hstep

theorem step_refused (s : St) (a : Act) (h : Refused a) : step s a = s := by
  cases a <;> simp [Refused] at h <;> rfl

/-- No action of the model sets `panicked`: since 526ea24 the timer callback returns before it can reach a closed database. -/
theorem step_panicked (s : St) (a : Act) : (step s a).panicked = s.panicked := by
  cases a <;> simp only [step, apply_ite St.panicked, ite_self]

theorem step_closed_unarmed (s : St) (a : Act) (h : s.storeOpen = false → s.timerArmed = false) :
    (step s a).storeOpen = false → (step s a).timerArmed = false := by
  cases a with
  | closeStore => exact fun _ => rfl
  | post exp =>
    simp only [step]
    split
    · next hc => exact fun (ho : s.storeOpen = false) => by simp [ho] at hc
    · exact h
  | fire =>
    simp only [step]
    split
    · exact fun _ => rfl
    · exact h
  | _ => exact h

theorem run_refused (s : St) (as : List Act) (h : ∀ a ∈ as, Refused a) : run s as = s :=
  run_induction (I := (· = s)) as rfl fun s' hs' a ha => (step_refused s' a (h a ha)).trans hs'

theorem run_panicked (s : St) (as : List Act) : (run s as).panicked = s.panicked :=
  run_induction (I := (·.panicked = s.panicked)) as rfl fun s' hs' a _ => (step_panicked s' a).trans hs'

/-- **C20, panic and timer conjuncts, at full strength**: under every sequence of actions – in particular with posts and timer
callbacks that complete after the shutdown – nothing panics and no timer is armed on a closed store. -/
theorem C20_no_panic_no_timer_after_shutdown (as : List Act) :
    (run {} as).panicked = false ∧ ((run {} as).storeOpen = false → (run {} as).timerArmed = false) :=
  ⟨run_panicked {} as,
    run_induction (I := fun s => s.storeOpen = false → s.timerArmed = false) as (fun _ => rfl)
      fun s hs a _ => step_closed_unarmed s a hs⟩

/-- Shutting the store down always leaves the state safe at that instant, from any non-panicked state. -/
theorem C20_close_is_clean (s : St) (hp : s.panicked = false) : Safe (step s .closeStore) := by
  unfold Safe; exact ⟨hp, fun _ => ⟨rfl, rfl⟩⟩

/-- **C20 (partial)**: whatever ran before – writers, posts (with or without expiry), feed registrations, timer callbacks, in any
order and number – if nothing but refused calls runs after the store is shut, then nothing has panicked, no timer is armed and
no feed goroutine is left. What is missing for the full statement is exactly "…and also when a feed registration that was already
in flight completes after the shut-down" – which is false, see `C20_shutdown_full_false` (posts and timer callbacks completing
late are covered by `C20_no_panic_no_timer_after_shutdown`). -/
theorem C20_quiescent_shutdown_partial (before after : List Act) (hno : Act.closeStore ∉ before)
    (hafter : ∀ a ∈ after, Refused a) : Safe (run {} (before ++ [Act.closeStore] ++ after)) := by
  rw [run_append, run_append, run_refused _ after hafter]
  exact C20_close_is_clean _ (run_panicked {} before)

example : Safe (run {} ([.txn, .post true, .register, .fire, .register] ++ [.closeStore] ++ [.txn, .closeHandle])) := by decide

/-! ### Lock order -/

def edges : List (String × String) := Rosmar.Gen.lockEdges.map (fun e => (e.1, e.2.1))

/-- The ranking of rosmar's locks that every acquisition outside the expiry-timer callback respects. -/
def rank (l : String) : Nat :=
  if l = "Bucket.mutex" then 0
  else if l = "bucketRegistry.lock" then 1
  else if l = "queue.cond" then 3
  else 2

/-- Acquisitions made by the timer callback (`runExpiry` holds the expiry mutex for the whole sweep). -/
def timerEdge (e : String × String) : Bool := e.1 == "expiryManager.mutex"

/-- Every nested lock acquisition in /repo's current source (as extracted into `Gen.lockEdges`), other than those of the timer
callback, goes up the ranking. -/
theorem C20_lock_order_partial : ∀ e ∈ edges.filter (fun e => !timerEdge e), rank e.1 < rank e.2 := by decide

/-- Hence: no set of threads that excludes the timer callback can deadlock on rosmar's mutexes. -/
theorem C20_no_deadlock_without_timer (ts : List (Thread String))
    (hts : ∀ t ∈ ts, ∀ l, t.waits = some l → ∀ h ∈ t.held, (h, l) ∈ edges.filter (fun e => !timerEdge e)) :
    ¬ Deadlocked ts :=
  ranked_edges_no_deadlock _ rank C20_lock_order_partial ts hts

example : edges.filter (fun e => !timerEdge e) ≠ [] := by decide

end Rosmar.Shutdown
