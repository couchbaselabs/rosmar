/-
  C16 — feeds terminate cleanly and independently (the bookkeeping; goroutine-level facts — the callback is not running
  when the done channel closes, the channel is closed once — are observed on the real code by the lifecycle scenarios).
-/
import Rosmar.FeedLife
import Rosmar.Proofs.FeedLemmas
namespace Rosmar.FeedLife

/-- `endWhere p` leaves a feed that `p` does not select, or that has ended already, as it is. -/
theorem mem_endWhere {p : LFeed → Bool} {l : Life} {f : LFeed} (hf : f ∈ l.feeds) (h : p f = true → f.ended = true) :
    f ∈ (endWhere p l).feeds := by
  refine List.mem_map.mpr ⟨f, hf, ?_⟩
  split
  · next hp => cases f; cases h hp; rfl
  · rfl

theorem endWhere_ended {p : LFeed → Bool} {l : Life} : ∀ f' ∈ (endWhere p l).feeds, p f' = true → f'.ended = true := by
  refine List.forall_mem_map.mpr fun g _ => ?_
  split
  · exact fun _ => rfl
  · next hp => exact fun h => absurd h hp

theorem mem_lstep_of_ended (l : Life) (e : LEvent) (f : LFeed) (hf : f ∈ l.feeds) (he : f.ended = true) :
    f ∈ (lstep l e).feeds := by
  cases e with
  | start id coll dump => exact List.mem_append_left _ hf
  | openHandle h => exact hf
  | closeHandle h =>
    simp only [lstep]
    split
    · exact mem_endWhere hf fun _ => he
    · exact hf
  | _ => exact mem_endWhere hf fun _ => he

/-- **Ended is forever**: no event revives a feed (its done channel is closed exactly once). -/
theorem C16_ended_stays_ended (l : Life) (e : LEvent) (f : LFeed) (hf : f ∈ l.feeds) (he : f.ended = true) :
    ∃ f' ∈ (lstep l e).feeds, f'.id = f.id ∧ f'.coll = f.coll ∧ f'.ended = true :=
  ⟨f, mem_lstep_of_ended l e f hf he, rfl, rfl, he⟩

/-- **Ending one feed ends only that feed**: closing a terminator leaves every feed with another id as it was. -/
theorem C16_terminator_ends_only_its_feed (l : Life) (id : String) (f : LFeed) (hf : f ∈ l.feeds) (hne : f.id ≠ id) :
    f ∈ (lstep l (.term id)).feeds :=
  mem_endWhere hf fun hp => absurd (beq_iff_eq.mp hp) hne

/-- **Dropping another collection never stops a feed.** -/
theorem C16_drop_ends_only_that_collections_feeds (l : Life) (coll : String) (f : LFeed) (hf : f ∈ l.feeds) (hne : f.coll ≠ coll) :
    f ∈ (lstep l (.drop coll)).feeds :=
  mem_endWhere hf fun hp => absurd (beq_iff_eq.mp hp) hne

/-- **Closing one of several handles never stops a feed** (nor does closing the last handle of an in-memory bucket). -/
theorem C16_closing_a_non_last_handle_ends_nothing (l : Life) (h : String)
    (hnotlast : l.onDisk = false ∨ (l.openHandles.filter (· ≠ h)).isEmpty = false) :
    (lstep l (.closeHandle h)).feeds = l.feeds := by
  simp only [lstep]
  rw [if_neg]
  rintro ⟨hd, he, _⟩
  rcases hnotlast with h1 | h1
  · exact Bool.false_ne_true (h1 ▸ hd)
  · exact Bool.false_ne_true (h1 ▸ he)

theorem lstep_closeHandle_last (l : Life) (h : String) (hd : l.onDisk = true) (ho : l.openHandles = [h]) :
    lstep l (.closeHandle h) = endWhere (fun _ => true) { l with openHandles := [], storeOpen := false } := by
  simp [lstep, hd, ho]

/-- **The ending events end the feed, whichever handle they come through**: its terminator, its collection's drop,
    the bucket's deletion, the last close of an on-disk bucket; a dump ends on its own. -/
theorem C16_ending_events_end_the_feed (l : Life) (f : LFeed) (hf : f ∈ l.feeds) :
    (∀ f' ∈ (lstep l (.term f.id)).feeds, f'.id = f.id → f'.ended = true) ∧
    (∀ f' ∈ (lstep l (.drop f.coll)).feeds, f'.coll = f.coll → f'.ended = true) ∧
    (∀ f' ∈ (lstep l .deleteBucket).feeds, f'.ended = true) ∧
    (∀ h, l.onDisk = true → l.openHandles = [h] → ∀ f' ∈ (lstep l (.closeHandle h)).feeds, f'.ended = true) :=
  ⟨fun f' hf' hid => endWhere_ended f' hf' (beq_iff_eq.mpr hid),
    fun f' hf' hc => endWhere_ended f' hf' (beq_iff_eq.mpr hc),
    fun f' hf' => endWhere_ended f' hf' rfl,
    fun h hd ho f' hf' => endWhere_ended f' (lstep_closeHandle_last l h hd ho ▸ hf') rfl⟩

/-- A dump feed ends by itself. -/
theorem C16_dump_ends_by_itself (l : Life) (id coll : String) :
    endedOf (lstep { l with feeds := [] } (.start id coll true)) id = some true := by
  simp [lstep, endedOf]

end Rosmar.FeedLife

namespace Rosmar

/-- **After it has ended a feed is given nothing more** (KV model): `postEvent` skips stopped feeds. -/
theorem C16_no_delivery_after_end (s : State) (c : String) (id : Nat) (e : Event) (f : Feed) (hf : f ∈ s.feeds) (hs : f.stopped = true) :
    f ∈ (postEvent s c id e).feeds := by
  unfold postEvent
  simp only [List.mem_map]
  exact ⟨f, hf, by simp [hs]⟩

end Rosmar
