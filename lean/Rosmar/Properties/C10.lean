/-
  C10 — durability and crash atomicity of on-disk buckets.
  In the model one `withNewCas` (one `inTransaction`) is one atomic action, so the logical content of the property is
  what a transaction bundles and what a reopen keeps; that SQLite commits atomically and durably (WAL) and that every
  statement of a call runs inside its one transaction is what the kill-at-every-point check exercises on the real files.
-/
import Rosmar.Proofs.Expiry
import Rosmar.Proofs.Shape
namespace Rosmar

/-- What is in the database file (everything else in `State` lives in the process and dies with it). -/
def persisted (s : State) : List (String × Coll) × Nat × Nat := (s.colls, s.lastCas, s.nextRowId)

/-- **A reopen observes exactly what was committed**: rows (body, xattrs, CAS, expiry, revision number), collections and
    their high-water marks, the bucket's high-water mark — whatever the dying process' clock, feeds or timer were. -/
theorem C10_reopen_keeps_everything_committed (s : State) (processHlc : Nat) : persisted (reopen s processHlc) = persisted s := rfl

/-- … so a call that returned success before the kill is visible to any later open. -/
theorem C10_acknowledged_is_durable (s : State) (ops : List Op) (processHlc : Nat) (c k : String) :
    (reopen (run s ops).1 processHlc).row? c k = (run s ops).1.row? c k := rfl

/-- **Entirely applied or not at all**: a transaction either fails, leaving the persisted state exactly as it was, or
    commits the document row, the bucket's high-water mark and the collection's high-water mark together under the one
    CAS it drew. There is no state in which only some of them changed. -/
theorem C10_transaction_is_all_or_nothing (s : State) (c : String) (fn : TxnFn) :
    persisted (withNewCas s c fn).1 = persisted s ∨
    (∃ x docs' nid ev out, s.coll? c = some x ∧ fn (hlcNow s.hlc s.phys) s.now s.nextRowId x.docs = .inr (docs', nid, ev, out) ∧
      (withNewCas s c fn).1.lastCas = hlcNow s.hlc s.phys ∧ (withNewCas s c fn).1.nextRowId = nid ∧
      (withNewCas s c fn).1.coll? c = some { x with docs := docs', lastCas := hlcNow s.hlc s.phys }) := by
  refine withNewCas_cases (motive := fun r => persisted r.1 = persisted s ∨ ∃ x docs' nid ev out, s.coll? c = some x ∧
      fn (hlcNow s.hlc s.phys) s.now s.nextRowId x.docs = .inr (docs', nid, ev, out) ∧ r.1.lastCas = hlcNow s.hlc s.phys ∧
      r.1.nextRowId = nid ∧ r.1.coll? c = some { x with docs := docs', lastCas := hlcNow s.hlc s.phys }) s c fn
    (fun _ => .inl rfl) (fun _ _ _ _ => .inl rfl) fun x docs' nid ev out hx hfn => ?_
  exact .inr ⟨x, docs', nid, ev, out, hx, hfn, by cases ev <;> rfl, by cases ev <;> rfl,
    by rw [postPending_coll?, commit_coll?_same hx]⟩

/-- Every single-row entry point is exactly one such transaction (or is rejected before it starts one). -/
theorem C10_one_transaction_per_call (s : State) (op : Op) (sh : OpShape) (h : op.shape = some sh) :
    ∀ c', (step s op).1.coll? c' = (runShape s sh).1.coll? c' := by
  obtain ⟨e, he⟩ := step_shape s op sh h
  rw [he]
  exact fun _ => rfl

/-- The reopened bucket keeps its pending expirations: the timer is re-armed from the stored expiries. -/
theorem C10_reopen_keeps_pending_expirations (s : State) (processHlc : Nat) (p : String × Coll) (hp : p ∈ (reopen s processHlc).colls)
    (d : String × Row) (hd : d ∈ p.2.docs) (hexp : d.2.exp > 0) :
    (reopen s processHlc).expNext ≠ 0 ∧ (reopen s processHlc).expNext ≤ d.2.exp :=
  reopen_expInv s processHlc p hp d hd hexp

/-- Non-vacuity: a failed conditional write between two successful ones; reopen with a forgetful clock. -/
example :
    let s := (run initState [.set "c0" "k" 50 false "1" false, .wcas "c0" "k" 0 7 (some "x") {}, .set "c1" "j" 0 false "2" false]).1
    let r := reopen s 0
    (r.row? "c0" "k").map (·.value) = some (some "1") ∧ r.lastCas = s.lastCas ∧ r.hlc = s.lastCas ∧ r.expNext = 1700000050 := by
  decide

end Rosmar
