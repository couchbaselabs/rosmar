/-
  C06 — insert-only writes never overwrite a live document, always create an absent one.
-/
import Rosmar.Proofs.Insert
namespace Rosmar

/-- If the row function stores nothing and says so, the call changes no row and returns the row function's result. -/
theorem step_idle {s : State} {op : Op} {c k : String} {f : RowFn} (h : op.shape = some (.row c k f)) {x : Coll}
    (hx : s.coll? c = some x) {ev : Option Event} {out : Out}
    (hf : f (hlcNow s.hlc s.phys) s.now (s.row? c k) = .inr (none, ev, out)) :
    (∀ c' k', (step s op).1.row? c' k' = s.row? c' k') ∧ (step s op).2 = .out out := by
  obtain ⟨_, hout, ho⟩ := step_outcome s op c k f h
  cases ho with
  | noColl hc => rw [hx] at hc; cases hc
  | failed hf' => rw [hf] at hf'; cases hf'
  | unchanged _ hf' hr => rw [hf] at hf'; cases hf'; exact ⟨hr, hout⟩
  | wrote _ _ hf' => rw [hf] at hf'; cases hf'

/-- What `GetRaw` reports: the key is missing exactly when it has no body. -/
theorem C06_getRaw_missing_iff (s : State) (c k : String) : (getRaw s c k).1 = .missing ↔ NoBody (s.row? c k) := by
  unfold getRaw NoBody
  cases h : s.row? c k with
  | none => simp
  | some r => cases hv : r.value <;> simp [hv]

/-- **Add / AddRaw**: in every coherent state (every reachable one, by `run_coh`), the call stores the document
    iff a `GetRaw` at that point reports the key missing; when it is refused nothing at all is written and
    `added = false` is returned. -/
theorem C06_add (s : State) (c k : String) (exp : Nat) (v : String) (json : Bool) (hs : StateAll RowCoh s)
    (x : Coll) (hx : s.coll? c = some x) :
    let r := step s (.add c k exp v json)
    ((getRaw s c k).1 = .missing →
        ∃ row, r.1.row? c k = some row ∧ row.value = some v ∧ r.2 = .out { added := true }) ∧
    ((getRaw s c k).1 ≠ .missing →
        (∀ c' k', r.1.row? c' k' = s.row? c' k') ∧ r.2 = .out { added := false }) := by
  intro r
  have hnb := noBody_iff_tomb (old := s.row? c k) fun _ h => hs.row h
  simp only [ne_eq, C06_getRaw_missing_iff]
  rcases addRow_cases k exp v (if json then true else looksLikeJSON v) (hlcNow s.hlc s.phys) s.now (s.row? c k) with
    ⟨ht, r', ev, hf, hv, _⟩ | ⟨⟨r0, hr0, ht0⟩, hf⟩
  · have hw := step_wrote (op := .add c k exp v json) rfl hx hf
    exact ⟨fun _ => ⟨_, hw.1, hv, hw.2⟩, fun hb => absurd (hnb.mpr ht) hb⟩
  · have hlive : ¬ NoBody (s.row? c k) := fun h => by rw [hnb.mp h r0 hr0] at ht0; cases ht0
    exact ⟨fun h => absurd h hlive, fun _ => step_idle (op := .add c k exp v json) rfl hx hf⟩

/-- **WriteCas with CAS 0 or with AddOnly** (not Append): it writes iff the key has no body; otherwise every row is
    left exactly as it was. (With `AddOnly` and a non-zero CAS on a key that has no row at all the code reports
    *missing*; that call is outside this statement's hypothesis.) -/
theorem C06_writeCas_insert (s : State) (c k : String) (exp cas : Nat) (v : Option String) (o : WOpts)
    (hs : StateAll RowCoh s) (x : Coll) (hx : s.coll? c = some x) (happ : o.append = false)
    (hins : cas = 0 ∨ (o.addOnly = true ∧ s.row? c k ≠ none)) :
    let r := step s (.wcas c k exp cas v o)
    (NoBody (s.row? c k) → ∃ row, r.1.row? c k = some row ∧ row.value = v ∧ row.cas = hlcNow s.hlc s.phys) ∧
    (¬ NoBody (s.row? c k) → ∀ c' k', r.1.row? c' k' = s.row? c' k') := by
  intro r
  have hold : OldCoh (s.row? c k) := fun _ h => hs.row h
  have hiff := wcasRow_insert_iff k exp cas v o (hlcNow s.hlc s.phys) s.now (s.row? c k) hold happ hins
  constructor
  · intro hnb
    obtain ⟨r', ev, o', hf⟩ := hiff.mpr hnb
    obtain ⟨rfl, _⟩ := wcasRow_inr hf
    exact ⟨_, (step_wrote (op := .wcas c k exp cas v o) rfl hx hf).1, by dsimp only [storedRow]; rw [happ]; rfl, rfl⟩
  · exact fun hb => step_not_wrote (op := .wcas c k exp cas v o) rfl fun _ _ _ h => hb (hiff.mp ⟨_, _, _, h⟩)

/-- **WriteResurrectionWithXattrs**: whenever it writes, the key had no body; on a key without a body it is never
    refused for existing (`applyEdits` failures — bad JSON, macro paths — are the only ones left). -/
theorem C06_writeResurrection (k b : String) (edits : List XEdit) (exp : Option Nat) (m : Macros) (nc now : Nat)
    (old : Option Row) (hc : OldCoh old) :
    (∀ r' ev out, wwxRow k (.body b) edits none exp { insertDoc := true } m nc now old = .inr (some r', ev, out) → NoBody old) ∧
    (NoBody old → ∀ out, wwxRow k (.body b) edits none exp { insertDoc := true } m nc now old = .inl out →
        ∃ e, applyEdits [] edits m nc (some b) = .inl e ∧ out = { err := e }) := by
  constructor
  · -- `insertDoc` lets only a write onto a tombstone through
    intro r' ev out h r hr
    obtain ⟨_, _, _, _, _, _, hpre, _⟩ := wwxRow_inr h
    exact (hc r hr).mp (((wwxPre_inr hpre).2.2.2.2.2 rfl r hr).1)
  · intro hnb out h
    rw [wwxRow_eq] at h
    have hpre : wwxPre (.body b) none { insertDoc := true } old = .inr (old.bind (·.value), (old.map (·.isJSON)).getD false, casOf old,
        (old.map (·.exp)).getD 0, [], revOf old) := by
      cases old with
      | none => rfl
      | some r => simp [wwxPre, (hc r rfl).mpr (hnb r rfl), ValArg.isBody, ifCasNonzero, casOf, revOf]
    simp only [hpre, wwxBody, ifCasMismatch, Bool.false_eq_true, and_false, if_false] at h
    cases he : applyEdits [] edits m nc (some b) <;> rw [he] at h <;> cases h
    exact ⟨_, rfl, rfl⟩

/-- **WriteWithXattrs with CAS 0** writes only if the key does not exist at all. -/
theorem C06_writeWithXattrs_cas0 (k : String) (val : ValArg) (edits : List XEdit) (exp : Option Nat) (o : XOpts) (m : Macros)
    (nc now : Nat) (old : Option Row) (hpos : ∀ r, old = some r → r.cas ≠ 0) (r' : Row) (ev : Option Event) (out : Out)
    (h : wwxRow k val edits (some 0) exp o m nc now old = .inr (some r', ev, out)) : old = none := by
  cases old with
  | none => rfl
  | some r => exact absurd (wwxRow_writesOnVersion _ _ _ _ _ _ h).1 (hpos r rfl)

/-- **A refused insert-style call leaves the document untouched** — indeed every single-row call that does not write
    leaves every row of every collection as it was. -/
theorem C06_refusal_untouched (s : State) (op : Op) (c k : String) (f : RowFn) (h : op.shape = some (.row c k f))
    (hno : ∀ r' ev out, f (hlcNow s.hlc s.phys) s.now (s.row? c k) ≠ .inr (some r', ev, out)) :
    ∀ c' k', (step s op).1.row? c' k' = s.row? c' k' :=
  step_not_wrote h hno

/-- Non-vacuity and the historical failure (`Add, Delete, Add, Add`): the last `Add` is refused and the document survives. -/
example :
    let s1 := (step initState (.add "c0" "k" 0 "1" true)).1
    let s2 := (step s1 (.delete "c0" "k")).1
    let s3 := (step s2 (.add "c0" "k" 0 "2" true)).1
    let r4 := step s3 (.add "c0" "k" 0 "3" true)
    (r4.1.row? "c0" "k").map (·.value) = some (some "2") ∧ (match r4.2 with | .out o => o.added | _ => true) = false := by
  decide

end Rosmar
