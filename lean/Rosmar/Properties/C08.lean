/-
  C08 — live feed: one faithful event per successful mutation (sequential part; the cross-thread ordering part is
  a known finding, see DESIGN.md F16 and Properties/C08 `C08_order_*` in Rosmar/Properties/Sched.lean).
-/
import Rosmar.Proofs.FeedLemmas
import Rosmar.Proofs.Shape
namespace Rosmar

/-- **The event is faithful**: whatever single-row entry point made the write, the event it posts equals
    `eventOf k r'` for the row `r'` it stored — same key, opcode deletion iff the row has no body, same body,
    same complete xattrs, datatype (JSON flag; xattr flag iff it has xattrs), CAS, expiry and revision number. -/
theorem C08_event_is_faithful (op : Op) (c k : String) (f : RowFn) (h : op.shape = some (.row c k f))
    (nc now : Nat) (old : Option Row) (r' : Row) (e : Event) (o : Out) (hf : f nc now old = .inr (some r', some e, o)) :
    e.key = k ∧ (e.isDeletion = true ↔ r'.value = none) ∧ e.value = r'.value ∧ e.xattrs = r'.xattrs ∧
    e.isJSON = r'.isJSON ∧ e.cas = r'.cas ∧ e.exp = r'.exp ∧ e.rev = r'.rev := by
  have := shape_family evFaithful_family op c k f h nc now old r' (some e) o hf e rfl
  subst this
  simp [eventOf]

/-- **Exactly one event per write that gives the document a new CAS; none for a touch; none when nothing is stored.** -/
theorem C08_one_event_per_new_cas (op : Op) (c k : String) (f : RowFn) (h : op.shape = some (.row c k f))
    (nc now : Nat) (old : Option Row) :
    (∀ r' ev o, f nc now old = .inr (some r', ev, o) → (r'.cas = nc ∧ ev.isSome) ∨ (r'.cas = casOf old ∧ ev = none)) ∧
    (∀ ev o, f nc now old = .inr (none, ev, o) → ev = none) :=
  (shape_family oneEventPerNewCas_family op c k f h).imp (· nc now old) (· nc now old)

/-- **Delivered exactly once to every feed already running on that collection** (the feed list is shared by all
    handles of the bucket — handles are not part of this model, the harness checks it through two handles), and to no
    other feed; **failed operations deliver nothing**. -/
theorem C08_delivery (s : State) (op : Op) (c k : String) (f : RowFn) (h : op.shape = some (.row c k f)) (x : Coll)
    (hx : s.coll? c = some x) :
    (∀ r' e o, f (hlcNow s.hlc s.phys) s.now (s.row? c k) = .inr (r', some e, o) →
      (step s op).1.feeds = s.feeds.map (fun fd =>
        if fd.coll = c ∧ ¬ fd.dump ∧ ¬ fd.stopped then { fd with pending := fd.pending ++ [.ev e x.id fd.keysOnly] } else fd)) ∧
    ((∀ r' e o, f (hlcNow s.hlc s.phys) s.now (s.row? c k) ≠ .inr (r', some e, o)) → (step s op).1.feeds = s.feeds) := by
  have hrow := State.row?_of_coll hx k
  -- the feeds after the call are those after its transaction (arming the timer for a touch does not touch them)
  obtain ⟨e, he⟩ := step_shape s op _ h
  rw [he]
  show (∀ r' e o, _ → (withNewCas s c (liftRow k f)).1.feeds = _) ∧ (_ → (withNewCas s c (liftRow k f)).1.feeds = _)
  rw [withNewCas_feeds, hx, hrow]
  dsimp only
  -- and the lifted function posts what the row function posts
  cases hfn : liftRow k f (hlcNow s.hlc s.phys) s.now s.nextRowId x.docs with
  | inl out => exact ⟨fun r' e o hf => (by rw [liftRow_inl.mp hfn] at hf; cases hf), fun _ => rfl⟩
  | inr q =>
    obtain ⟨docs', nid, ev, out⟩ := q
    obtain ⟨r', hf⟩ : ∃ r', f (hlcNow s.hlc s.phys) s.now (x.docs.get? k) = .inr (r', ev, out) :=
      (liftRow_inr hfn).elim (fun h => ⟨none, h.1⟩) (fun ⟨r', h, _⟩ => ⟨some r', h⟩)
    refine ⟨fun r'' e o hf' => (by rw [hf] at hf'; cases hf'; rfl), fun hno => ?_⟩
    cases ev with
    | none => rfl
    | some e => exact absurd hf (hno r' e out)

/-- Within one writer's history, CAS values posted to a feed increase: each posted event carries the CAS just drawn,
    which exceeds the clock's previous high-water mark (C04). -/
theorem C08_posted_cas_exceeds_clock (op : Op) (c k : String) (f : RowFn) (h : op.shape = some (.row c k f)) (s : State)
    (r' : Row) (e : Event) (o : Out) (hf : f (hlcNow s.hlc s.phys) s.now (s.row? c k) = .inr (some r', some e, o)) :
    e.cas = hlcNow s.hlc s.phys ∧ e.cas > s.hlc := by
  have h1 := (C08_event_is_faithful op c k f h _ _ _ r' e o hf).2.2.2.2.2.1
  rcases (shape_family oneEventPerNewCas_family op c k f h).1 _ _ _ _ _ _ hf with ⟨h2, _⟩ | ⟨_, h3⟩
  · rw [h1, h2]; exact ⟨rfl, hlcNow_gt _ _⟩
  · cases h3

/-- Non-vacuity: a feed on `c0` and one on `c1`; a write to `c0`, a refused `Add`, a touch. -/
example :
    let s0 := (run initState [.startFeed "f0" "c0" .none false false, .startFeed "f1" "c1" .none false false]).1
    let s1 := (run s0 [.set "c0" "k" 0 false "1" false, .add "c0" "k" 0 "2" true, .touch "c0" "k" 9]).1
    (s1.feeds.map (fun f => f.pending.length)) = [1, 0] := by
  decide

end Rosmar
