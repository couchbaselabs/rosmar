/-
  C13 — bucket handle lifecycle: open modes, sharing, reference counting and deletion (sequential part).
  The reference-count invariant over whole histories is validated by the correspondence check (the harness compares
  `cluster.bucketCount`, `GetBucketNames` and the directories with the model after every step), not proved here;
  the concurrent-open race is a known finding (F13).
-/
import Rosmar.Registry
namespace Rosmar.Registry

theorem lookup_insert {α : Type} (l : List (String × α)) (k q : String) (v : α) :
    lookup (insert l k v) q = if k = q then some v else lookup l q := by
  induction l with
  | nil => simp [insert, lookup]
  | cons hd tl ih =>
    obtain ⟨k0, v0⟩ := hd
    by_cases h0 : k0 = k
    · subst h0
      by_cases h1 : k0 = q <;> simp [insert, lookup, h1]
    · by_cases h1 : k0 = q
      · subst h1
        simp [insert, lookup, h0, Ne.symm h0]
      · simp [insert, lookup, h0, h1, ih]

theorem lookup_remove_same {α : Type} (l : List (String × α)) (k : String) : lookup (remove l k) k = none := by
  induction l with
  | nil => simp [remove, lookup]
  | cons hd tl ih =>
    obtain ⟨k0, v0⟩ := hd
    by_cases h : k0 = k
    · simp [remove, h, ih]
    · simp [remove, lookup, h, ih]

theorem modifyStore_data (r : Reg) (sid : Nat) (f : Store → Store) (hf : ∀ st, (f st).data = st.data ∧ (f st).id = st.id) :
    (r.modifyStore sid f).stores.map (fun s => (s.id, s.data)) = r.stores.map (fun s => (s.id, s.data)) := by
  simp only [Reg.modifyStore, List.map_map]
  refine List.map_congr_left fun x _ => ?_
  simp only [Function.comp]
  split
  · rw [(hf x).1, (hf x).2]
  · rfl

theorem closeHandle_closed {r : Reg} {h : String} {hd : Handle} (hh : lookup r.handles h = some hd)
    (hc : hd.closed = true) : closeHandle r h = (r, .ok) := by
  simp only [closeHandle, hh, hc, if_true]

/-- `Close` of an open handle, field by field: the handle is marked, one reference of its bucket name is given up,
    and only the last reference to an on-disk bucket unregisters the name and closes the database. -/
theorem closeHandle_open {r : Reg} {h : String} {hd : Handle} (hh : lookup r.handles h = some hd)
    (hc : hd.closed = false) :
    closeHandle r h =
      ({ r with
          handles := insert r.handles h { hd with closed := true }
          counts := if r.count hd.name = 0 then r.counts else if r.count hd.name = 1 then remove r.counts hd.name
                    else insert r.counts hd.name (r.count hd.name - 1)
          buckets := if r.count hd.name = 1 ∧ hd.inMem = false then remove r.buckets hd.name else r.buckets
          stores := if r.count hd.name = 1 ∧ hd.inMem = false then (closeStore r hd.store).stores else r.stores },
       .ok) := by
  simp only [closeHandle, hh, hc, Bool.false_eq_true, if_false]
  by_cases h0 : r.count hd.name = 0
  · simp [h0]
  · by_cases h1 : r.count hd.name = 1
    · cases hd.inMem <;> simp [h1, closeStore, Reg.modifyStore]
    · simp [h0, h1]

theorem closeHandle_closes {r : Reg} {h : String} {hd : Handle} (hh : lookup r.handles h = some hd) :
    ∃ hd', lookup (closeHandle r h).1.handles h = some hd' ∧ hd'.closed = true := by
  cases hc : hd.closed with
  | true => exact ⟨hd, by rw [closeHandle_closed hh hc]; exact hh, hc⟩
  | false => exact ⟨{ hd with closed := true }, by simp [closeHandle_open hh hc, lookup_insert], rfl⟩

/-- **Closing a handle twice is closing it once.** -/
theorem C13_close_is_idempotent (r : Reg) (h : String) (hd : Handle) (hh : lookup r.handles h = some hd) :
    closeHandle (closeHandle r h).1 h = ((closeHandle r h).1, .ok) := by
  obtain ⟨hd', h1, h2⟩ := closeHandle_closes hh
  exact closeHandle_closed h1 h2

/-- **Closing a handle disables only that handle**: every other handle's record is untouched, and the closed handle's
    later calls fail with the bucket-closed error. -/
theorem C13_close_disables_only_that_handle (r : Reg) (h h' : String) (hne : h' ≠ h) :
    lookup (closeHandle r h).1.handles h' = lookup r.handles h' := by
  cases hh : lookup r.handles h with
  | none => simp only [closeHandle, hh]
  | some hd =>
    cases hc : hd.closed with
    | true => rw [closeHandle_closed hh hc]
    | false => simp [closeHandle_open hh hc, lookup_insert, hne.symm]

theorem C13_closed_handle_calls_fail (r : Reg) (h : String) (hd : Handle) (hh : lookup r.handles h = some hd) (k v : String) :
    (put (closeHandle r h).1 h k v).2 = .closed ∧ (get (closeHandle r h).1 h k).1 = .closed := by
  obtain ⟨hd', h1, h2⟩ := closeHandle_closes hh
  simp [put, get, h1, probeErr, h2]

/-- **While another reference is held the shared database stays open and registered**: with a reference count of at
    least two, `Close` only decrements. -/
theorem C13_other_handles_keep_working (r : Reg) (h : String) (hd : Handle) (hh : lookup r.handles h = some hd)
    (hopen : hd.closed = false) (hcount : r.count hd.name ≥ 2) :
    (closeHandle r h).1.stores = r.stores ∧ (closeHandle r h).1.buckets = r.buckets ∧ (closeHandle r h).1.disk = r.disk ∧
    (closeHandle r h).1.count hd.name = r.count hd.name - 1 := by
  have h0 : ¬ r.count hd.name = 0 := by omega
  have h1 : ¬ r.count hd.name = 1 := by omega
  simp only [closeHandle_open hh hopen, h0, h1, false_and, if_false, true_and]
  simp [Reg.count, lookup_insert]

/-- **CreateNew fails iff the bucket exists** (registered under that name, or — on disk — its directory holds a database). -/
theorem C13_createNew_fails_iff_exists (r : Reg) (h url name : String) :
    (openBucket r h url name .createNew).2 = .exist ↔
      ((lookup r.buckets name).isSome ∨ (isMemUrl url = false ∧ (lookup r.disk url).isSome)) := by
  unfold openBucket
  cases lookup r.buckets name with
  | some e => simp
  | none => cases isMemUrl url <;> cases lookup r.disk url <;> simp

/-- **ReOpenExisting fails iff it does not.** -/
theorem C13_reOpenExisting_fails_iff_absent (r : Reg) (h url name : String) :
    (openBucket r h url name .reOpenExisting).2 = .notExist ↔
      ((lookup r.buckets name).isNone ∧ (isMemUrl url = true ∨ (lookup r.disk url).isNone)) := by
  unfold openBucket
  cases lookup r.buckets name with
  | some e => by_cases hu : url = e.url <;> simp [hu]
  | none => cases isMemUrl url <;> cases lookup r.disk url <;> simp

/-- **A name already open at another URL is refused.** -/
theorem C13_other_url_is_refused (r : Reg) (h url name : String) (mode : Mode) (e : Entry)
    (hb : lookup r.buckets name = some e) (hm : mode ≠ .createNew) (hu : url ≠ e.url) :
    openBucket r h url name mode = (r, .urlMismatch) := by
  simp [openBucket, hb, hm, hu]

/-- **All handles opened on one name share one store.** -/
theorem C13_handles_share_the_store (r : Reg) (h url name : String) (mode : Mode) (e : Entry)
    (hb : lookup r.buckets name = some e) (hok : (openBucket r h url name mode).2 = .ok) :
    (lookup (openBucket r h url name mode).1.handles h).map (·.store) = some e.store := by
  simp only [openBucket, hb] at hok ⊢
  by_cases hm : mode = .createNew
  · simp [hm] at hok
  · by_cases hu : url = e.url
    · simp [hm, hu, lookup_insert]
    · simp [hm, hu] at hok

/-- **CloseAndDelete removes the registry entry, the reference count and (on disk) the directory's database.** -/
theorem C13_closeAndDelete_removes (r : Reg) (h : String) (hd : Handle) (hh : lookup r.handles h = some hd) :
    lookup (closeAndDelete r h).1.buckets hd.name = none ∧ (closeAndDelete r h).1.count hd.name = 0 ∧
    (hd.inMem = false → lookup (closeAndDelete r h).1.disk hd.url = none) := by
  simp only [closeAndDelete, hh]
  cases hd.inMem <;> simp [Reg.modifyStore, closeStore, Reg.count, lookup_remove_same]

/-- **An on-disk bucket's data is intact when reopened after its last handle closed**: `Close` — the last one
    included — leaves every directory's database file and its contents alone (and a later open of that directory
    attaches to the database file it finds there: `openBucket`, disk case). -/
theorem C13_data_intact_after_close (r : Reg) (h : String) :
    (closeHandle r h).1.disk = r.disk ∧
    (closeHandle r h).1.stores.map (fun s => (s.id, s.data)) = r.stores.map (fun s => (s.id, s.data)) := by
  cases hh : lookup r.handles h with
  | none => simp only [closeHandle, hh, and_self]
  | some hd =>
    cases hc : hd.closed with
    | true => simp only [closeHandle_closed hh hc, and_self]
    | false =>
      simp only [closeHandle_open hh hc, true_and]
      split
      · exact modifyStore_data _ _ _ fun _ => ⟨rfl, rfl⟩
      · rfl

/-- … and an in-memory bucket's data survives until `CloseAndDelete`: the last `Close` keeps its registry entry and database. -/
theorem C13_in_memory_survives_close (r : Reg) (h : String) (hd : Handle) (hh : lookup r.handles h = some hd) (him : hd.inMem = true) :
    (closeHandle r h).1.buckets = r.buckets ∧ (closeHandle r h).1.stores = r.stores := by
  cases hc : hd.closed with
  | true => simp only [closeHandle_closed hh hc, and_self]
  | false => simp [closeHandle_open hh hc, him]

/-- Non-vacuity: two handles on an on-disk bucket, the first closed twice; the second keeps working; after the last
    close and a reopen the data is still there; CreateNew is refused. -/
example :
    let r := rrun {} [.open_ "h0" "d0" "A" .createNew, .open_ "h1" "d0" "A" .createOrOpen, .put "h0" "x" "1",
                      .close "h0", .close "h0", .put "h1" "y" "2", .close "h1", .open_ "h2" "d0" "A" .reOpenExisting]
    (get r "h2" "x", get r "h2" "y", (openBucket r "h3" "d0" "A" .createNew).2, (get r "h0" "x").1) =
      ((.ok, some "1"), (.ok, some "2"), .exist, .closed) := by
  decide

end Rosmar.Registry
