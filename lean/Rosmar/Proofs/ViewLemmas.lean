/-
  The view index and the KV write paths (C12): the invariant that makes incremental maintenance exact, and its preservation
  by every entry point other than the WithMeta writes.
-/
import Rosmar.View
import Rosmar.Proofs.Clock
import Rosmar.Proofs.Shape
namespace Rosmar.View
open Rosmar

/-! ### Keys of a collection are unique (`UNIQUE (collection, key)`) -/

def KeysNodup (docs : Docs) : Prop := (docs.map (·.1)).Nodup

theorem KeysNodup.put {docs : Docs} (h : KeysNodup docs) (k : String) (r : Row) : KeysNodup (docs.put k r) := by
  unfold KeysNodup at *
  induction docs with
  | nil => simp [Docs.put]
  | cons a as ih =>
    rw [List.map_cons, List.nodup_cons] at h
    unfold Docs.put
    split
    · exact List.nodup_cons.mpr h
    · refine List.nodup_cons.mpr ⟨fun hm => ?_, ih h.2⟩
      -- a key of `put as k r` is `k` or a key of `as`
      obtain ⟨d, hd, he⟩ := List.mem_map.mp hm
      rcases Docs.mem_put hd with rfl | hd'
      · exact ‹¬ a.1 = k› he.symm
      · exact h.1 (List.mem_map.mpr ⟨d, hd', he⟩)

theorem KeysNodup.filter {docs : Docs} (h : KeysNodup docs) (p : String × Row → Bool) : KeysNodup (docs.filter p) :=
  (List.filter_sublist.map _).nodup h

/-- With unique keys, the first entry of a key is the entry. -/
theorem KeysNodup.find?_of_mem {docs : Docs} (h : KeysNodup docs) {d : String × Row} (hd : d ∈ docs) :
    docs.find? (fun p => p.1 = d.1) = some d := by
  unfold KeysNodup at h
  induction docs with
  | nil => cases hd
  | cons a as ih =>
    rw [List.map_cons, List.nodup_cons] at h
    rcases List.mem_cons.mp hd with rfl | hd'
    · exact List.find?_cons_of_pos (decide_eq_true rfl)
    · -- `d` is in the tail, so the head has another key
      rw [List.find?_cons_of_neg fun e => h.1 (List.mem_map.mpr ⟨d, hd', (of_decide_eq_true e).symm⟩)]
      exact ih h.2 hd'

/-! ### The map rows of a row depend on its body, its JSON flag and its xattrs only -/

theorem mapRows_congr (m : Nat) (k : String) (r r' : Row) (hv : r'.value = r.value) (hj : r'.isJSON = r.isJSON)
    (hx : r'.xattrs = r.xattrs) : mapRows m k r' = mapRows m k r := by
  unfold mapRows mapInput?
  rw [hv, hj, hx]

/-! ### The invariant -/

/-- The index is exact for every document that is not newer than the view's `lastCas`. -/
def IndexInv (docs : Docs) (v : ViewDef) : Prop :=
  ∀ d ∈ docs, d.2.cas ≤ v.lastCas → v.rowsOf d.1 = mapRows v.mapId d.1 d.2

/-- What the view needs of its collection: unique keys; every document stamped with a positive CAS not above the
collection's high-water mark; the view never indexed beyond that mark; the index exact up to the view's own mark. -/
def CollOK (v : ViewDef) (x : Coll) : Prop :=
  KeysNodup x.docs ∧ (∀ d ∈ x.docs, 0 < d.2.cas ∧ d.2.cas ≤ x.lastCas) ∧ v.lastCas ≤ x.lastCas ∧ IndexInv x.docs v

def VInv (c : String) (v : ViewDef) (s : State) : Prop :=
  ClockInv s ∧ ∀ x, s.coll? c = some x → CollOK v x

theorem VInv.frame {c : String} {v : ViewDef} {s s' : State} (hv : VInv c v s) (hc : ClockInv s') (h : s'.coll? c = s.coll? c) :
    VInv c v s' :=
  ⟨hc, fun x hx => hv.2 x (h ▸ hx)⟩

/-- Another view that is fit for the collection may take the view's place. -/
theorem VInv.of_collOK {c : String} {v v' : ViewDef} {s : State} {x : Coll} (h : VInv c v s) (hx : s.coll? c = some x)
    (hok : CollOK v' x) : VInv c v' s :=
  ⟨h.1, fun _ hx' => Option.some.inj (hx.symm.trans hx') ▸ hok⟩

/-- The invariant does not look at the expiry timer. -/
theorem VInv.expNext {c : String} {v : ViewDef} {s : State} (hv : VInv c v s) (e : Nat) : VInv c v { s with expNext := e } :=
  hv.frame (hv.1.frame_colls rfl rfl (Nat.le_refl _) rfl) rfl

theorem collLastCas_le_hlc {s : State} (h : ClockInv s) {c : String} {x : Coll} (hx : s.coll? c = some x) : x.lastCas ≤ s.hlc := by
  obtain ⟨p, hp, rfl⟩ := State.coll?_mem hx
  exact Nat.le_trans (h.2.2.2 p hp) h.2.2.1

/-- A transaction that commits without storing a row only raises the collection's mark. -/
theorem CollOK.bump {v : ViewDef} {x : Coll} (h : CollOK v x) (nc : Nat) (hnc : x.lastCas ≤ nc) :
    CollOK v { x with lastCas := nc } :=
  ⟨h.1, fun d hd => ⟨(h.2.1 d hd).1, Nat.le_trans (h.2.1 d hd).2 hnc⟩, Nat.le_trans h.2.2.1 hnc, h.2.2.2⟩

/-- A row may be stored if its CAS is positive and not above the mark and, should the view have indexed that far already, the
index holds its map rows. -/
theorem CollOK.put {v : ViewDef} {x : Coll} (h : CollOK v x) (k : String) (r : Row) (hc : 0 < r.cas ∧ r.cas ≤ x.lastCas)
    (hi : r.cas ≤ v.lastCas → v.rowsOf k = mapRows v.mapId k r) : CollOK v { x with docs := x.docs.put k r } :=
  ⟨h.1.put k r, fun d hd => (Docs.mem_put hd).elim (fun e => e ▸ hc) (h.2.1 d), h.2.2.1,
    fun d hd => (Docs.mem_put hd).elim (fun e => e ▸ hi) (h.2.2.2 d)⟩

/-- A committed write keeps the collection fit for the view. -/
theorem CollOK.write {v : ViewDef} {x : Coll} (h : CollOK v x) (k : String) {nc : Nat} (hnc : x.lastCas < nc) (r' : Row)
    (hr : r'.cas = nc ∨ ∃ r, x.docs.get? k = some r ∧ r'.cas = r.cas ∧ r'.value = r.value ∧ r'.isJSON = r.isJSON ∧ r'.xattrs = r.xattrs)
    (rid : Nat) : CollOK v { x with docs := x.docs.put k { r' with rowid := rid }, lastCas := nc } := by
  have hb := h.bump nc (Nat.le_of_lt hnc)
  rcases hr with hc | ⟨r, hold, hc, hv, hj, hx⟩
  · -- the CAS just drawn is above the view's mark: nothing is claimed of the index
    exact hb.put k _ ⟨Nat.zero_lt_of_lt (hc ▸ hnc), Nat.le_of_eq hc⟩ fun hle =>
      absurd (Nat.le_trans hle h.2.2.1) (Nat.not_le.mpr (hc ▸ hnc))
  · -- a touch: to the view the row is the row it replaces
    have hm := Docs.get?_mem hold
    exact hb.put k _ (hc ▸ hb.2.1 _ hm) fun hle => (hb.2.2.2 _ hm (hc ▸ hle)).trans (mapRows_congr v.mapId k r _ hv hj hx).symm

theorem withNewCas_liftRow_vinv (c : String) (v : ViewDef) (k : String) (f : RowFn) (hf : CasFreshOrSame k f) (s : State) (c' : String)
    (hs : VInv c v s) : VInv c v (withNewCas s c' (liftRow k f)).1 := by
  refine ⟨withNewCas_clockInv s c' _ hs.1, withNewCas_cases (motive := fun r => ∀ x', r.1.coll? c = some x' → CollOK v x') s c' _
    (fun _ => hs.2) (fun _ _ _ _ => hs.2) fun x docs' nid ev out hx hfn x' hx' => ?_⟩
  rw [postPending_coll?] at hx'
  by_cases hc : c = c'
  · subst hc
    rw [commit_coll?_same hx] at hx'
    cases hx'
    -- the CAS just drawn is above the clock, hence above the collection's mark
    have hlt : x.lastCas < hlcNow s.hlc s.phys := Nat.lt_of_le_of_lt (collLastCas_le_hlc hs.1 hx) (hlcNow_gt _ _)
    rcases liftRow_inr hfn with ⟨_, rfl⟩ | ⟨r', hfr, rfl⟩
    · exact (hs.2 x hx).bump _ (Nat.le_of_lt hlt)
    · exact (hs.2 x hx).write k hlt r' (hf _ _ _ r' ev out hfr) _
  · rw [commit_coll?_other s x _ _ _ hc] at hx'
    exact hs.2 x' hx'

/-! ### Everything else a step can do leaves the collections alone or filters them -/

theorem CollOK.filter {v : ViewDef} {x : Coll} (h : CollOK v x) (p : String × Row → Bool) :
    CollOK v { x with docs := x.docs.filter p } :=
  ⟨h.1.filter p, fun d hd => h.2.1 d (List.mem_filter.mp hd).1, h.2.2.1, fun d hd => h.2.2.2 d (List.mem_filter.mp hd).1⟩

theorem opPurge_coll? (s : State) (c : String) :
    (opPurge s).1.coll? c = (s.coll? c).map (fun x => { x with docs := x.docs.filter (fun d => d.2.value.isSome) }) := by
  simp [opPurge, State.coll?, List.find?_map, Function.comp_def]

/-- Calls that are not WithMeta writes. -/
def NoMeta : Op → Prop
  | .wmeta .. => False
  | _ => True

/-- **Every entry point other than the WithMeta writes keeps every view's index invariant.** -/
theorem vinv_step (c : String) (v : ViewDef) : StepInvariant NoMeta (VInv c v) where
  txn := (casFreshOrSame_family.toTxn).mapInv (fun k f hf s c' hs => withNewCas_liftRow_vinv c v k f hf s c' hs)
  touchOp := fun s c' k exp hs => by
    rw [opTouch, armOnSuccess_eq]
    exact (withNewCas_liftRow_vinv c v k _ (casFreshOrSame_family.touch k exp) s c' hs).expNext _
  wmeta := fun _ _ _ _ _ _ _ _ _ _ hw _ => hw.elim
  draw := fun s hs => hs.frame (clockInv_step.draw s hs.1) rfl
  restart := fun s p _ hs => hs.frame (reopen_clockInv s p hs.1) rfl
  purge := fun s _ hs => ⟨opPurge_clockInv s hs.1, fun x' hx' => by
    obtain ⟨x, hx, rfl⟩ := Option.map_eq_some_iff.mp (opPurge_coll? s c ▸ hx')
    exact (hs.2 x hx).filter _⟩
  arm := fun s e hs => hs.expNext _
  fire := fun s hs => fire_of_txn (I := VInv c v)
    (fun k s c' h => withNewCas_liftRow_vinv c v k _ (casFreshOrSame_family.remove k none) s c' h) (fun s e h => h.expNext e) s hs
  clock := fun s t hs => hs.frame (clockInv_step.clock s t hs.1) rfl
  now := fun s n hs => hs.frame (clockInv_step.now s n hs.1) rfl
  feeds := fun s fs hs => hs.frame (clockInv_step.feeds s fs hs.1) rfl

/-! ### The query side -/

theorem updateIndex_mapId (docs : Docs) (L : Nat) (v : ViewDef) : (updateIndex docs L v).mapId = v.mapId := by
  rw [updateIndex, apply_ite ViewDef.mapId, ite_self]
theorem updateIndex_reduce (docs : Docs) (L : Nat) (v : ViewDef) : (updateIndex docs L v).reduce = v.reduce := by
  rw [updateIndex, apply_ite ViewDef.reduce, ite_self]
theorem updateIndex_lastCas (docs : Docs) (L : Nat) (v : ViewDef) : (updateIndex docs L v).lastCas = L := by
  rw [updateIndex, apply_ite ViewDef.lastCas]
  exact ite_eq_right_iff.mpr Eq.symm

theorem updateIndex_rowsOf (docs : Docs) (L : Nat) (v : ViewDef) (hnd : KeysNodup docs) (hne : L ≠ v.lastCas)
    (d : String × Row) (hd : d ∈ docs) :
    (updateIndex docs L v).rowsOf d.1 = if d.2.cas > v.lastCas then mapRows v.mapId d.1 d.2 else v.rowsOf d.1 := by
  -- the new `mapped` lists the documents under their keys, so its entry for `d.1` is the one made from `d`
  rw [updateIndex, if_neg hne, ViewDef.rowsOf, List.find?_map, Function.comp_def, hnd.find?_of_mem hd]
  rfl

/-- **After `updateView` the index is exactly the map function over the current documents**, and the view is fit again. -/
theorem updateIndex_exact (v : ViewDef) (x : Coll) (h : CollOK v x) :
    joined x.docs (updateIndex x.docs x.lastCas v) = freshIndex x.docs v.mapId ∧ CollOK (updateIndex x.docs x.lastCas v) x := by
  obtain ⟨hnd, hok, _, hinv⟩ := h
  have hrows : ∀ d ∈ x.docs, (updateIndex x.docs x.lastCas v).rowsOf d.1 = mapRows v.mapId d.1 d.2 := by
    intro d hd
    by_cases he : x.lastCas = v.lastCas
    · -- no document is newer than the view's mark: the index stays, and is exact throughout
      rw [updateIndex, if_pos he]
      exact hinv d hd (he ▸ (hok d hd).2)
    · rw [updateIndex_rowsOf x.docs x.lastCas v hnd he d hd]
      exact ite_eq_left_iff.mpr fun hold => hinv d hd (Nat.not_lt.mp hold)
  exact ⟨List.map_congr_left fun d hd => congrArg (d.1, ·) (hrows d hd), hnd, hok, Nat.le_of_eq (updateIndex_lastCas ..),
    fun d hd _ => by rw [updateIndex_mapId]; exact hrows d hd⟩

/-- Filtering by something every match of `p` passes does not change what `find? p` finds. -/
theorem find?_filter_of_imp {α : Type} (l : List α) (p q : α → Bool) (h : ∀ a, p a = true → q a = true) :
    (l.filter q).find? p = l.find? p := by
  rw [List.find?_filter]
  congr 1
  funext a
  cases hp : p a
  · simp
  · simp [h a hp]

/-- The cascade from `documents` to `mapped` does not disturb the rows of the documents that remain. -/
theorem gc_rowsOf (docs : Docs) (v : ViewDef) (d : String × Row) (hd : d ∈ docs) : (v.gc docs).rowsOf d.1 = v.rowsOf d.1 := by
  have hget : (docs.get? d.1).isSome = true := by
    rw [Docs.get?_eq_find?, Option.isSome_map, List.find?_isSome]
    exact ⟨d, hd, decide_eq_true rfl⟩
  unfold ViewDef.gc ViewDef.rowsOf
  rw [find?_filter_of_imp _ _ _ fun p hp => of_decide_eq_true hp ▸ hget]

theorem gc_collOK (v : ViewDef) (x : Coll) (h : CollOK v x) : CollOK (v.gc x.docs) x :=
  ⟨h.1, h.2.1, h.2.2.1, fun d hd hc => (gc_rowsOf x.docs v d hd).trans (h.2.2.2 d hd hc)⟩

/-- A view that was just created (never indexed, no rows) is fit for any collection whose documents carry a positive CAS. -/
theorem new_view_collOK (name : String) (m : Nat) (red : String) (x : Coll) (hnd : KeysNodup x.docs)
    (hok : ∀ d ∈ x.docs, 0 < d.2.cas ∧ d.2.cas ≤ x.lastCas) :
    CollOK { name := name, mapId := m, reduce := red } x :=
  ⟨hnd, hok, Nat.zero_le _, fun d hd hc => absurd (hok d hd).1 (Nat.not_lt.mpr hc)⟩

end Rosmar.View
