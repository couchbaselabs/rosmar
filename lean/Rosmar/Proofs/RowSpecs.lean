/-
  What the row functions store. One specification (`RowFn.Spec`) holds of every row function that runs inside a CAS-giving
  transaction: the revision goes up by one, the CAS is the one just drawn, the event posted is the faithful description of the
  stored row, the call reports success, the row is coherent. `Touch` (no new CAS, no event) and the WithMeta writes (the caller's CAS)
  are characterised on their own. The facts the properties need about all of them (C01, C04, C05, C08, C12, C14, C17) are read off here.
-/
import Rosmar.Proofs.Invariant
namespace Rosmar

/-- The revision number of a key: 0 while it has no row. -/
def revOf : Option Row → Nat
  | some r => r.rev
  | none => 0

/-- The document's current CAS, 0 standing for "no such document". -/
def casOf : Option Row → Nat
  | some r => r.cas
  | none => 0

/-- The event that faithfully describes a stored row (what `asFeedEvent` is given for a live mutation,
    and what the backfill query reads back). -/
def eventOf (k : String) (r : Row) : Event :=
  { key := k, value := r.value, isDeletion := r.value.isNone, isJSON := r.isJSON, xattrs := r.xattrs,
    cas := r.cas, exp := r.exp, rev := r.rev }

/-- The flag and the body agree. -/
def RowCoh (r : Row) : Prop := r.tomb = true ↔ r.value = none

def OldCoh (old : Option Row) : Prop := ∀ r, old = some r → RowCoh r

/-- What a row function that runs inside a CAS-giving transaction guarantees: of a row it stores, and of a call that stores none. -/
def RowFn.Spec (k : String) (f : RowFn) : Prop :=
  ∀ nc now old ro ev o, f nc now old = .inr (ro, ev, o) →
    match ro with
    | some r' => r'.rev = revOf old + 1 ∧ r'.cas = nc ∧ ev = some (eventOf k r') ∧ o.err = .ok ∧ (OldCoh old → RowCoh r')
    | none => ev = none

theorem RowFn.Spec.wrote {k : String} {f : RowFn} (h : f.Spec k) {nc now : Nat} {old : Option Row} {r' : Row} {ev : Option Event} {o : Out}
    (hf : f nc now old = .inr (some r', ev, o)) :
    r'.rev = revOf old + 1 ∧ r'.cas = nc ∧ ev = some (eventOf k r') ∧ o.err = .ok ∧ (OldCoh old → RowCoh r') := h _ _ _ _ _ _ hf

theorem RowFn.Spec.idle {k : String} {f : RowFn} (h : f.Spec k) {nc now : Nat} {old : Option Row} {ev : Option Event} {o : Out}
    (hf : f nc now old = .inr (none, ev, o)) : ev = none := h _ _ _ _ _ _ hf

/-! ### The two large ones, inverted -/

/-- What `WriteCas` stores, when it stores, and on which version. -/
theorem wcasRow_inr {k : String} {exp cas : Nat} {v : Option String} {o : WOpts} {nc now : Nat} {old : Option Row} {r' : Row}
    {ev : Option Event} {out : Out} (h : wcasRow k exp cas v o nc now old = .inr (some r', ev, out)) :
    r' = { rowid := (old.map (·.rowid)).getD 0,
           value := if o.append then v.map (((old.bind (·.value)).getD "") ++ ·) else v,
           cas := nc, exp := absExp now exp, isJSON := (!(o.raw || o.append)) && v.isSome,
           xattrs := (old.map fun r => if r.tomb then [] else r.xattrs).getD [],
           tomb := v.isNone, rev := revOf old + 1 } ∧
    ev = some (eventOf k r') ∧ out = { cas := nc } ∧
    (if o.append then ∃ r b, old = some r ∧ r.value = some b ∧ r.cas = cas
     else if o.addOnly ∨ cas = 0 then ∀ r, old = some r → r.tomb = true
     else ∃ r, old = some r ∧ r.cas = cas) := by
  unfold wcasRow at h
  split at h
  · cases h
  · dsimp only at h
    split at h
    · repeat' split at h
      all_goals cases h
    · rename_i hw
      cases h
      repeat' split at hw
      all_goals cases hw
      all_goals simp_all [revOf, eventOf]

/-- It never succeeds without storing a row. -/
theorem wcasRow_ne_idle {k : String} {exp cas : Nat} {v : Option String} {o : WOpts} {nc now : Nat} {old : Option Row}
    {ev : Option Event} {out : Out} : wcasRow k exp cas v o nc now old ≠ .inr (none, ev, out) := by
  intro h
  unfold wcasRow at h
  split at h
  · cases h
  · dsimp only at h
    split at h
    · repeat' split at h
      all_goals cases h
    · cases h

/-- The read-and-check prefix of `writeWithXattrs`: value, isJSON, prevCas, exp, xattrs, rev of the document as the call sees it. -/
def wwxPre (val : ValArg) (ifCas : Option Nat) (o : XOpts) (old : Option Row) : Out ⊕ (Option String × Bool × Nat × Nat × Xattrs × Nat) :=
  match old with
  | some r =>
    if r.tomb ∧ val.isBody then
      if ifCasNonzero ifCas then .inl { err := .keyExists }
      else .inr (r.value, r.isJSON, r.cas, r.exp, [], r.rev)
    else if o.insertDoc then .inl { err := .keyExists }
    else .inr (r.value, r.isJSON, r.cas, r.exp, r.xattrs, r.rev)
  | none =>
    if o.requireExistingDoc then .inl { err := .missing }
    else if ifCasNonzero ifCas then .inl { err := .casMismatch, actual := some 0 }
    else .inr (none, false, 0, 0, [], 0)

/-- The body step: new value, datatype, and the xattrs the edits start from. -/
def wwxBody (val : ValArg) (value0 : Option String) (isJSON0 : Bool) (xattrs0 : Xattrs) : Option String × Bool × Xattrs :=
  match val with
  | .keep => (value0, isJSON0, xattrs0)
  | .delete => (none, false, Xattrs.systemOnly xattrs0)
  | .body b => (some b, true, xattrs0)

theorem wwxRow_eq (k : String) (val : ValArg) (edits : List XEdit) (ifCas exp : Option Nat) (o : XOpts) (m : Macros)
    (nc now : Nat) (old : Option Row) :
    wwxRow k val edits ifCas exp o m nc now old =
      match wwxPre val ifCas o old with
      | .inl out => .inl out
      | .inr (value0, isJSON0, prevCas, exp0, xattrs0, rev0) =>
        if value0.isNone ∧ o.deleteBody ∧ o.requireExistingDoc then .inl { err := .missing }
        else if ifCasMismatch ifCas prevCas then .inl { err := .casMismatch, actual := some prevCas }
        else
          match applyEdits (wwxBody val value0 isJSON0 xattrs0).2.2 edits m nc (wwxBody val value0 isJSON0 xattrs0).1 with
          | .inl err => .inl { err := err }
          | .inr xattrs =>
            let value := (wwxBody val value0 isJSON0 xattrs0).1
            let expStored := match exp with | some e => absExp now e | none => exp0
            .inr (some { rowid := 0, value := value, cas := nc, exp := expStored, isJSON := (wwxBody val value0 isJSON0 xattrs0).2.1,
                         xattrs := xattrs, tomb := value.isNone, rev := rev0 + 1 },
              some { key := k, value := value, isDeletion := value.isNone, isJSON := (wwxBody val value0 isJSON0 xattrs0).2.1,
                     xattrs := xattrs, cas := nc, exp := expStored, rev := rev0 + 1 },
              { cas := nc }) := by
  unfold wwxRow wwxPre wwxBody
  cases old <;> cases val <;> rfl

/-- What the prefix read: the old row's fields (zeros for a missing document), its xattrs unless a body is being written onto
a tombstone; and `insertDoc` lets only that last case through. -/
theorem wwxPre_inr {val : ValArg} {ifCas : Option Nat} {o : XOpts} {old : Option Row} {v0 : Option String} {j0 : Bool}
    {c0 e0 : Nat} {x0 : Xattrs} {r0 : Nat} (h : wwxPre val ifCas o old = .inr (v0, j0, c0, e0, x0, r0)) :
    v0 = old.bind (·.value) ∧ c0 = casOf old ∧ e0 = (old.map (·.exp)).getD 0 ∧ r0 = revOf old ∧
    x0 = (old.map fun r => if r.tomb ∧ val.isBody then [] else r.xattrs).getD [] ∧
    (o.insertDoc = true → ∀ r, old = some r → r.tomb = true ∧ val.isBody = true) := by
  unfold wwxPre at h
  cases old <;> dsimp only at h <;> repeat' split at h
  all_goals cases h
  all_goals simp_all [casOf, revOf]

/-- **What `writeWithXattrs` stores**, in terms of what its prefix read: the CAS just drawn; the body given (or the old one, or none when
deleting); the expiry given (or the old one); the edits applied — macros expanded against *that* CAS and *that* body — to the xattrs
`wwxBody` starts from; and it posts the faithful event of that row. -/
theorem wwxRow_inr {k : String} {val : ValArg} {edits : List XEdit} {ifCas exp : Option Nat} {o : XOpts} {m : Macros} {nc now : Nat}
    {old : Option Row} {r' : Row} {ev : Option Event} {out : Out}
    (h : wwxRow k val edits ifCas exp o m nc now old = .inr (some r', ev, out)) :
    ∃ v0 j0 c0 e0 x0 r0, wwxPre val ifCas o old = .inr (v0, j0, c0, e0, x0, r0) ∧ ifCasMismatch ifCas c0 = false ∧
      r'.value = (wwxBody val v0 j0 x0).1 ∧ r'.tomb = r'.value.isNone ∧ r'.cas = nc ∧ r'.exp = (exp.map (absExp now)).getD e0 ∧
      r'.rev = r0 + 1 ∧ applyEdits (wwxBody val v0 j0 x0).2.2 edits m nc r'.value = .inr r'.xattrs ∧
      ev = some (eventOf k r') ∧ out = { cas := nc } := by
  rw [wwxRow_eq] at h
  split at h
  · cases h
  · rename_i v0 j0 c0 e0 x0 r0 hpre
    split at h
    · cases h
    · split at h
      · cases h
      · split at h
        · cases h
        · rename_i hmis _ _ hx
          cases h
          exact ⟨v0, j0, c0, e0, x0, r0, hpre, by simpa using hmis, rfl, rfl, rfl, by cases exp <;> rfl, rfl, hx, rfl, rfl⟩

/-! ### The specification, member by member -/

theorem addRow_spec (k : String) (exp : Nat) (v : String) (j : Bool) : (addRow k exp v j).Spec k := by
  intro nc now old ro ev o h
  unfold addRow at h
  repeat' split at h
  all_goals cases h
  all_goals simp [revOf, eventOf, RowCoh]

theorem setRow_spec (k : String) (exp : Nat) (pe : Bool) (v : String) (j : Bool) : (setRow k exp pe v j).Spec k := by
  intro nc now old ro ev o h
  cases h
  cases old <;> cases pe <;> simp [revOf, eventOf, RowCoh]

theorem incrRow_spec (k : String) (amt d exp : Nat) : (incrRow k amt d exp).Spec k := by
  intro nc now old ro ev o h
  unfold incrRow at h
  dsimp only at h
  split at h <;> cases h
  cases old <;> simp [setCore, revOf, eventOf, RowCoh]

theorem removeRow_spec (k : String) (ifCas : Option Nat) : (removeRow k ifCas).Spec k := by
  intro nc now old ro ev o h
  unfold removeRow at h
  repeat' split at h
  all_goals cases h
  simp [revOf, eventOf, RowCoh]

theorem delxRow_spec (k : String) (names : List String) : (delxRow k names).Spec k := by
  intro nc now old ro ev o h
  unfold delxRow at h
  repeat' split at h
  all_goals cases h
  simp [revOf, eventOf, RowCoh]

/-- `DeleteSubDocPaths` leaves body and flag as they were: coherent if the row it read was. -/
theorem dspRow_spec (k : String) (names : List String) : (dspRow k names).Spec k := by
  intro nc now old ro ev o h
  unfold dspRow at h
  repeat' split at h
  all_goals cases h
  simp only [revOf, eventOf, OldCoh, true_and]
  exact fun h => by simpa [RowCoh] using h _ rfl

theorem wwxRow_spec (k : String) (val : ValArg) (edits : List XEdit) (ifCas exp : Option Nat) (o : XOpts) (m : Macros) :
    (wwxRow k val edits ifCas exp o m).Spec k := by
  intro nc now old ro ev out h
  cases ro with
  | none =>
    rw [wwxRow_eq] at h
    repeat' split at h
    all_goals cases h
  | some r' =>
    obtain ⟨v0, j0, c0, e0, x0, r0, hpre, _, _, ht, hc, _, hrev, _, rfl, rfl⟩ := wwxRow_inr h
    obtain ⟨_, _, _, rfl, _⟩ := wwxPre_inr hpre
    exact ⟨hrev, hc, rfl, rfl, fun _ => by simp [RowCoh, ht]⟩

theorem wcasRow_spec (k : String) (exp cas : Nat) (v : Option String) (o : WOpts) : (wcasRow k exp cas v o).Spec k := by
  intro nc now old ro ev out h
  cases ro with
  | none => exact absurd h wcasRow_ne_idle
  | some r' =>
    obtain ⟨hr, rfl, rfl, _⟩ := wcasRow_inr h
    refine ⟨by rw [hr], by rw [hr], rfl, rfl, fun _ => ?_⟩
    rw [hr]
    cases v <;> cases o.append <;> simp [RowCoh]

theorem spec_txn : TxnFamily RowFn.Spec :=
  { add := addRow_spec, set := setRow_spec, incr := incrRow_spec, wcas := wcasRow_spec, remove := removeRow_spec, wwx := wwxRow_spec,
    delx := delxRow_spec, dsp := dspRow_spec }

/-- A touch keeps everything but the expiry and the revision, gives no new CAS and posts nothing (the exemption C08 grants). -/
theorem touchRow_inr {exp nc now : Nat} {old : Option Row} {r' : Row} {ev : Option Event} {o : Out}
    (h : touchRow exp nc now old = .inr (some r', ev, o)) :
    ∃ r v, old = some r ∧ r.value = some v ∧ r' = { r with exp := absExp now exp, rev := r.rev + 1 } ∧ ev = none ∧
      o = { cas := r.cas, val := some v } := by
  unfold touchRow at h
  dsimp only at h
  split at h
  · cases h
  · split at h
    · cases h
    · cases h; exact ⟨_, _, rfl, ‹_›, rfl, rfl, rfl⟩

/-- WithMeta writes are conditional on the CAS the caller names and store what the caller says, under the CAS the caller says. -/
theorem wmetaRow_inr {k : String} {oldCas newCas exp : Nat} {xs : Xattrs} {body : Option String} {j d : Bool} {nc now : Nat}
    {old : Option Row} {r' : Row} {ev : Option Event} {o : Out}
    (h : wmetaRow k oldCas newCas exp xs body j d nc now old = .inr (some r', ev, o)) :
    casOf old = oldCas ∧
    r' = { rowid := 0, value := body, cas := newCas, exp := exp, isJSON := j, xattrs := xs, tomb := d, rev := revOf old + 1 } ∧
    ev = some { key := k, value := body, isDeletion := d, isJSON := j, xattrs := xs, cas := newCas, exp := exp, rev := revOf old + 1 } := by
  unfold wmetaRow at h
  cases old <;> dsimp only at h <;> split at h <;> cases h
  all_goals exact ⟨Eq.symm (Decidable.not_not.mp ‹_›), rfl, rfl⟩

/-! ### Facts about every member, as `Family` instances -/

/-- A fact that follows from the specification, and holds of a touch, holds of the whole family. -/
theorem Family.of_spec {Q : String → RowFn → Prop} (htxn : ∀ k f, RowFn.Spec k f → Q k f) (htouch : ∀ k exp, Q k (touchRow exp)) :
    Family Q :=
  (spec_txn.mapInv htxn).toFamily htouch

/-- The event posted (if any) is the faithful description of the stored row. -/
def EvFaithful (k : String) (f : RowFn) : Prop :=
  ∀ nc now old r' ev o, f nc now old = .inr (some r', ev, o) → ∀ e, ev = some e → e = eventOf k r'

/-- A write that gives the document a new CAS (the one just drawn) posts an event; the only write that does not
    give a new CAS (a touch) posts none. Nothing is posted when nothing is stored. -/
def OneEventPerNewCas (_k : String) (f : RowFn) : Prop :=
  (∀ nc now old r' ev o, f nc now old = .inr (some r', ev, o) →
    (r'.cas = nc ∧ ev.isSome) ∨ (r'.cas = casOf old ∧ ev = none)) ∧
  (∀ nc now old ev o, f nc now old = .inr (none, ev, o) → ev = none)

/-- A call that stores a row reports success. -/
def OkOnWrite (_k : String) (f : RowFn) : Prop :=
  ∀ nc now old r' ev o, f nc now old = .inr (some r', ev, o) → o.err = .ok

/-- A stored row gets the CAS just drawn, or (a touch) keeps its CAS, body, JSON flag and xattrs. -/
def CasFreshOrSame (_k : String) (f : RowFn) : Prop :=
  ∀ nc now old r' ev o, f nc now old = .inr (some r', ev, o) →
    r'.cas = nc ∨ ∃ r, old = some r ∧ r'.cas = r.cas ∧ r'.value = r.value ∧ r'.isJSON = r.isJSON ∧ r'.xattrs = r.xattrs

theorem evFaithful_family : Family EvFaithful :=
  .of_spec (fun _ _ h _ _ _ _ _ _ hf e he => by obtain ⟨_, _, rfl, _⟩ := h.wrote hf; cases he; rfl)
    (fun _ _ _ _ _ _ _ _ hf e he => by obtain ⟨_, _, _, _, _, rfl, _⟩ := touchRow_inr hf; cases he)

theorem oneEventPerNewCas_family : Family OneEventPerNewCas :=
  .of_spec (fun _ _ h => ⟨fun _ _ _ _ _ _ hf => by obtain ⟨_, hc, rfl, _⟩ := h.wrote hf; exact .inl ⟨hc, rfl⟩, fun _ _ _ _ _ hf => h.idle hf⟩)
    (fun _ _ => ⟨fun _ _ _ _ _ _ hf => by obtain ⟨_, _, rfl, _, rfl, rfl, _⟩ := touchRow_inr hf; exact .inr ⟨rfl, rfl⟩,
      fun _ _ _ _ _ hf => by
        unfold touchRow at hf
        dsimp only at hf
        repeat' split at hf
        all_goals cases hf⟩)

theorem okOnWrite_family : Family OkOnWrite :=
  .of_spec (fun _ _ h _ _ _ _ _ _ hf => (h.wrote hf).2.2.2.1)
    (fun _ _ _ _ _ _ _ _ hf => by obtain ⟨_, _, _, _, _, _, rfl⟩ := touchRow_inr hf; rfl)

theorem casFreshOrSame_family : Family CasFreshOrSame :=
  .of_spec (fun _ _ h _ _ _ _ _ _ hf => .inl (h.wrote hf).2.1)
    (fun _ _ _ _ _ _ _ _ hf => by obtain ⟨r, _, rfl, _, rfl, _⟩ := touchRow_inr hf; exact .inr ⟨r, rfl, rfl, rfl, rfl, rfl⟩)

/-! ### Tombstone coherence (C05): every write entry point stores `tombstone = 1` exactly when it stores no body -/

/-- Tombstone coherence is a row invariant of every write entry point (of a WithMeta write exactly when the call is well-formed). -/
theorem rowCoh_invariant : RowInvariant RowCoh where
  fam := .of_spec (fun _ _ h _ _ _ _ _ _ hold hf _ => (h.wrote hf).2.2.2.2 hold)
    (fun _ _ _ _ _ _ _ _ hold hf _ => by obtain ⟨r, _, rfl, _, rfl, _⟩ := touchRow_inr hf; exact hold r rfl)
  wmeta := fun _ _ _ _ _ body _ _ hwf _ _ _ _ _ _ _ hf _ => by
    obtain ⟨_, rfl, _⟩ := wmetaRow_inr hf
    cases body <;> simp [RowCoh, hwf]

/-- Every reachable state is coherent: induction over any operation list. -/
theorem run_coh (ops : List Op) (hwf : ∀ op ∈ ops, op.WF) : StateAll RowCoh (run initState ops).1 :=
  run_inv rowCoh_invariant.step ops initState hwf (initState_stateAll RowCoh)

end Rosmar
