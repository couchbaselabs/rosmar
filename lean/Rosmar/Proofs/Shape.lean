/-
  Every single-row entry point is `runShape s op.shape`: rejected by its argument checks, or exactly one
  `withNewCas s c (liftRow k f)` transaction. Lets the property theorems quantify over all of them at once.
-/
import Rosmar.Proofs.RowSpecs
import Rosmar.Proofs.Effect
namespace Rosmar

/-- A single-row call is `runShape` of its shape, up to the expiry timer (which a touch arms after its transaction). -/
theorem step_shape (s : State) (op : Op) (sh : OpShape) (h : op.shape = some sh) :
    ∃ e, step s op = ({ (runShape s sh).1 with expNext := e }, .out (runShape s sh).2) := by
  cases op <;> simp only [Op.shape, Option.some.injEq, reduceCtorEq] at h <;> subst h
  case touch c k exp => exact ⟨_, by simp only [step, opTouch, armOnSuccess_eq]; rfl⟩
  all_goals exact ⟨_, rfl⟩

/-- A rejected call returns its error and leaves the whole state alone. -/
theorem step_rejected (s : State) (op : Op) (e : Err) (h : op.shape = some (.rejected e)) : step s op = (s, .out { err := e }) := by
  cases op <;> simp only [Op.shape, Option.some.injEq, reduceCtorEq] at h
  all_goals first
    | cases h
    | (simp only [step, opSetXattrs, opRemoveXattrs, opUpdateXattrs, opWriteWithXattrs, opWriteTombstoneWithXattrs,
        opWriteResurrectionWithXattrs, opUpdateXattrDeleteBody, h, runShape])

/-- Whatever single-row entry point is called, the row function it runs belongs to the family. -/
theorem Op.shape_all {Q : String → RowFn → Prop} (hQ : Family Q) (op : Op) (sh : OpShape) (h : op.shape = some sh) : sh.All Q := by
  cases op <;> simp only [Op.shape, Option.some.injEq, reduceCtorEq] at h <;> subst h
  case add => exact hQ.add ..
  case set => exact hQ.set ..
  case wcas => exact hQ.wcas ..
  case remove => exact hQ.remove ..
  case delete => exact hQ.remove ..
  case touch => exact hQ.touch ..
  case incr => exact hQ.incr ..
  case delx => exact hQ.delx ..
  case dsp => exact hQ.dsp ..
  case setx | rmx | uxdb => exact wwxShape_all (hQ.wwx ..)
  case updx => exact shapeUpdateXattrs_all (fun _ _ _ _ => hQ.wwx ..) ..
  case wwx => exact shapeWriteWithXattrs_all (fun _ _ _ _ => hQ.wwx ..) ..
  case wtx => exact shapeWriteTombstoneWithXattrs_all (fun _ _ _ _ => hQ.wwx ..) ..
  case wrx => exact shapeWriteResurrectionWithXattrs_all (fun _ _ _ _ => hQ.wwx ..) ..

theorem shape_family {Q : String → RowFn → Prop} (hQ : Family Q) (op : Op) (c k : String) (f : RowFn)
    (h : op.shape = some (.row c k f)) : Q k f :=
  Op.shape_all hQ op _ h

/-- The outcome of any single-row entry point, in terms of its row function. -/
theorem step_outcome (s : State) (op : Op) (c k : String) (f : RowFn) (h : op.shape = some (.row c k f)) :
    ∃ out, (step s op).2 = .out out ∧ RowOutcome f s c k (step s op).1 out := by
  obtain ⟨e, he⟩ := step_shape s op _ h
  rw [he]
  refine ⟨_, rfl, ?_⟩
  -- the timer plays no part in which rows there are
  cases withNewCas_liftRow_outcome s c k f with
  | noColl hc hr herr => exact .noColl hc hr herr
  | failed hf hr => exact .failed hf hr
  | unchanged ev hf hr => exact .unchanged ev hf hr
  | wrote r' ev hf hr ho => exact .wrote r' ev hf hr ho

/-- If the row function stores a row, the call stores it (with the identity of the row it replaces) and returns the row function's result. -/
theorem step_wrote {s : State} {op : Op} {c k : String} {f : RowFn} (h : op.shape = some (.row c k f)) {x : Coll}
    (hx : s.coll? c = some x) {r' : Row} {ev : Option Event} {out : Out}
    (hf : f (hlcNow s.hlc s.phys) s.now (s.row? c k) = .inr (some r', ev, out)) :
    (step s op).1.row? c k = some (storedRow (s.row? c k) s.nextRowId r') ∧ (step s op).2 = .out out := by
  obtain ⟨_, hout, ho⟩ := step_outcome s op c k f h
  cases ho with
  | noColl hc => rw [hx] at hc; cases hc
  | failed hf' => rw [hf] at hf'; cases hf'
  | unchanged _ hf' => rw [hf] at hf'; cases hf'
  | wrote _ _ hf' hr => rw [hf] at hf'; cases hf'; exact ⟨hr, hout⟩

/-- A single-row call leaves every row as it was, or stores its row function's row under the addressed key, returns the row function's result
and leaves every other row as it was. -/
theorem step_rows (s : State) (op : Op) (c k : String) (f : RowFn) (h : op.shape = some (.row c k f)) :
    (∀ c' k', (step s op).1.row? c' k' = s.row? c' k') ∨
    ∃ r' ev out, f (hlcNow s.hlc s.phys) s.now (s.row? c k) = .inr (some r', ev, out) ∧ (step s op).2 = .out out ∧
      (step s op).1.row? c k = some (storedRow (s.row? c k) s.nextRowId r') ∧
      ∀ c' k', (c' ≠ c ∨ k' ≠ k) → (step s op).1.row? c' k' = s.row? c' k' := by
  obtain ⟨out, hout, ho⟩ := step_outcome s op c k f h
  cases ho with
  | noColl _ hr => exact .inl hr
  | failed _ hr => exact .inl hr
  | unchanged _ _ hr => exact .inl hr
  | wrote r' ev hf hr ho => exact .inr ⟨r', ev, out, hf, hout, hr, ho⟩

/-- If the row function stores nothing, the call changes no row. -/
theorem step_not_wrote {s : State} {op : Op} {c k : String} {f : RowFn} (h : op.shape = some (.row c k f))
    (hno : ∀ r' ev out, f (hlcNow s.hlc s.phys) s.now (s.row? c k) ≠ .inr (some r', ev, out)) :
    ∀ c' k', (step s op).1.row? c' k' = s.row? c' k' :=
  (step_rows s op c k f h).resolve_right fun ⟨r', ev, out, hf, _⟩ => hno r' ev out hf

end Rosmar
