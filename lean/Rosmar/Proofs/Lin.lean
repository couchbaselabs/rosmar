/-
  Optimistic concurrency holds across arbitrary interference (C03): while a document's CAS is unchanged its body is
  unchanged, whatever other operations ran in between — so a write conditional on the CAS that was read is stored on top
  of exactly the version that was read.
-/
import Rosmar.Proofs.Clock
import Rosmar.Proofs.Shape
namespace Rosmar

/-- "Version `cas0` of `(c, k)` has body `b0` and xattrs `x0`": as long as the key still carries CAS `cas0`, it still
    has that body and those xattrs. `cas0` is a CAS the clock has already passed. -/
def VersionInv (c k : String) (cas0 : Nat) (b0 : Option String) (x0 : Xattrs) (s : State) : Prop :=
  cas0 ≤ s.hlc ∧ (casOf (s.row? c k) = cas0 → (s.row? c k).bind (·.value) = b0 ∧ ((s.row? c k).map (·.xattrs)).getD [] = x0)

theorem withNewCas_versionInv (c k : String) (cas0 : Nat) (b0 : Option String) (x0 : Xattrs)
    (c' k' : String) (f : RowFn) (hf : CasFreshOrSame k' f) (s : State) (h : VersionInv c k cas0 b0 x0 s) :
    VersionInv c k cas0 b0 x0 (withNewCas s c' (liftRow k' f)).1 := by
  obtain ⟨hle, hver⟩ := h
  have hgt := hlcNow_gt s.hlc s.phys
  have hhlc : s.hlc ≤ (withNewCas s c' (liftRow k' f)).1.hlc :=
    withNewCas_cases (motive := fun r => s.hlc ≤ r.1.hlc) s c' _ (fun _ => Nat.le_refl _) (fun _ _ _ _ => Nat.le_of_lt hgt)
      fun _ _ _ _ _ _ _ => by rw [postPending_hlc]; exact Nat.le_of_lt hgt
  refine ⟨Nat.le_trans hle hhlc, ?_⟩
  cases withNewCas_liftRow_outcome s c' k' f with
  | noColl _ hr _ => rw [hr]; exact hver
  | failed _ hr => rw [hr]; exact hver
  | unchanged _ _ hr => rw [hr]; exact hver
  | wrote r' ev hfw hr hother =>
    by_cases hck : c = c' ∧ k = k'
    · obtain ⟨rfl, rfl⟩ := hck
      rw [hr]
      intro hc
      rcases hf _ _ _ _ _ _ hfw with hnew | ⟨r, hold, hsame, hval, _, hx⟩
      · exfalso
        simp only [casOf, storedRow] at hc
        omega
      · rw [hold] at hver
        simp only [casOf, storedRow, Option.bind, Option.map, Option.getD] at hc hver ⊢
        rw [hval, hx]
        exact hver (hsame ▸ hc)
    · have hne : c ≠ c' ∨ k ≠ k' := by
        by_cases h1 : c = c'
        · exact Or.inr (fun h2 => hck ⟨h1, h2⟩)
        · exact Or.inl h1
      rw [hother c k hne]; exact hver

theorem VersionInv.frame {c k : String} {cas0 : Nat} {b0 : Option String} {x0 : Xattrs} {s s' : State}
    (hh : s.hlc ≤ s'.hlc) (hr : s'.row? c k = s.row? c k) (h : VersionInv c k cas0 b0 x0 s) : VersionInv c k cas0 b0 x0 s' := by
  obtain ⟨h1, h2⟩ := h
  exact ⟨Nat.le_trans h1 hh, by rw [hr]; exact h2⟩

/-- Operations under which the version relation is claimed: everything but the WithMeta writes (which choose their own
    CAS), purges and process restarts. -/
def Op.Regular : Op → Prop
  | .wmeta .. => False
  | .restart _ => False
  | .purge => False
  | _ => True


theorem versionInv_step (c k : String) (cas0 : Nat) (b0 : Option String) (x0 : Xattrs) :
    StepInvariant Op.Regular (VersionInv c k cas0 b0 x0) where
  txn := (casFreshOrSame_family.toTxn).mapInv (fun k' f hf s c' h => withNewCas_versionInv c k cas0 b0 x0 c' k' f hf s h)
  touchOp := fun s c' k' exp h => by
    unfold opTouch
    have h1 := withNewCas_versionInv c k cas0 b0 x0 c' k' _ (casFreshOrSame_family.touch k' exp) s h
    rw [armOnSuccess_eq]
    exact VersionInv.frame (Nat.le_refl _) rfl h1
  wmeta := fun s c' k' old new exp xs body j d hw _ => absurd hw (by simp [Op.Regular])
  draw := fun s h => VersionInv.frame (Nat.le_of_lt (hlcNow_gt _ _)) rfl h
  restart := fun s p hw _ => absurd hw (by simp [Op.Regular])
  purge := fun s hw _ => absurd hw (by simp [Op.Regular])
  arm := fun s e h => VersionInv.frame (Nat.le_refl _) rfl h
  fire := fun s h => fire_of_txn (fun k' s c' h => withNewCas_versionInv c k cas0 b0 x0 c' k' _ (casFreshOrSame_family.remove k' none) s h)
    (fun s e h => VersionInv.frame (Nat.le_refl _) rfl h) s h
  clock := fun s t h => VersionInv.frame (Nat.le_refl _) rfl h
  now := fun s n h => VersionInv.frame (Nat.le_refl _) rfl h
  feeds := fun s fs h => VersionInv.frame (Nat.le_refl _) rfl h

end Rosmar
