/-
  The state-level effect of a single-row write: what `withNewCas s c (liftRow k f)` does to every row
  of every collection, and what it returns, in terms of the row-level function `f` alone.
-/
import Rosmar.Proofs.Lemmas
namespace Rosmar

theorem withNewCas_row?_other_coll (s : State) (c c' k' : String) (fn : TxnFn) (h : c' ≠ c) :
    (withNewCas s c fn).1.row? c' k' = s.row? c' k' := by
  rw [State.row?_def, State.row?_def, withNewCas_coll?_other s c c' fn h]

/-- The outcome of a single-row write, read off the row function. -/
inductive RowOutcome (f : RowFn) (s : State) (c k : String) (s' : State) (out : Out) : Prop where
  | noColl (h : s.coll? c = none) (hrow : ∀ c' k', s'.row? c' k' = s.row? c' k') (ho : out.err = .closed)
  | failed (hf : f (hlcNow s.hlc s.phys) s.now (s.row? c k) = .inl out) (hrow : ∀ c' k', s'.row? c' k' = s.row? c' k')
  | unchanged (ev : Option Event) (hf : f (hlcNow s.hlc s.phys) s.now (s.row? c k) = .inr (none, ev, out))
      (hrow : ∀ c' k', s'.row? c' k' = s.row? c' k')
  | wrote (r' : Row) (ev : Option Event) (hf : f (hlcNow s.hlc s.phys) s.now (s.row? c k) = .inr (some r', ev, out))
      (hrow : s'.row? c k = some (storedRow (s.row? c k) s.nextRowId r'))
      (hother : ∀ c' k', (c' ≠ c ∨ k' ≠ k) → s'.row? c' k' = s.row? c' k')

theorem withNewCas_liftRow_outcome (s : State) (c k : String) (f : RowFn) :
    RowOutcome f s c k (withNewCas s c (liftRow k f)).1 (withNewCas s c (liftRow k f)).2 := by
  refine withNewCas_cases (motive := fun r => RowOutcome f s c k r.1 r.2) s c _
    (fun hx => .noColl hx (fun _ _ => rfl) rfl) ?_ ?_
  · intro x out hx hfn
    exact .failed (State.row?_of_coll hx k ▸ liftRow_inl.mp hfn) (fun _ _ => rfl)
  · intro x docs' nid ev out hx hfn
    have hrow := State.row?_of_coll hx
    -- the rows after the commit: those of `docs'` in `c`, everything else as it was
    have hsame : ∀ k', (postPending (commit s c x (hlcNow s.hlc s.phys) nid docs') c (ev.map (x.id, ·))).row? c k' = docs'.get? k' :=
      fun k' => by rw [State.row?_def, postPending_coll?, commit_coll?_same hx]; rfl
    have hother : ∀ c' k', c' ≠ c →
        (postPending (commit s c x (hlcNow s.hlc s.phys) nid docs') c (ev.map (x.id, ·))).row? c' k' = s.row? c' k' :=
      fun c' k' h => by rw [State.row?_def, State.row?_def, postPending_coll?, commit_coll?_other s x _ _ _ h]
    rcases liftRow_inr hfn with ⟨hf, rfl⟩ | ⟨r', hf, rfl⟩
    · refine .unchanged ev (hrow k ▸ hf) fun c' k' => ?_
      by_cases hc : c' = c
      · rw [hc, hsame, hrow]
      · exact hother c' k' hc
    · refine .wrote r' ev (hrow k ▸ hf) (by rw [hsame, Docs.get?_put, if_pos rfl, hrow]) fun c' k' hne => ?_
      by_cases hc : c' = c
      · rw [hc, hsame, Docs.get?_put, if_neg (hne.resolve_left (not_not_intro hc)), hrow]
      · exact hother c' k' hc

end Rosmar
