/-
  Foundational lemmas: the association lists, collections in the state, and what a single-row transaction
  (`liftRow` inside `withNewCas`, or inside a WithMeta write) does, stated once.
-/
import Rosmar.Sched
namespace Rosmar

/-! ### Docs -/

@[simp] theorem Docs.get?_nil (k : String) : Docs.get? [] k = none := rfl

theorem Docs.get?_put (docs : Docs) (k k' : String) (r : Row) :
    (docs.put k r).get? k' = if k' = k then some r else docs.get? k' := by
  induction docs with
  | nil => simp [Docs.put, Docs.get?, eq_comm]
  | cons hd tl ih =>
    unfold Docs.put
    split <;> rename_i h
    · by_cases hk : k' = k <;> simp [Docs.get?, h, hk, Ne.symm]
    · by_cases hk : hd.1 = k' <;> simp_all [Docs.get?]

theorem Docs.get?_eq_find? (docs : Docs) (k : String) : docs.get? k = (docs.find? fun p => p.1 = k).map (·.2) := by
  induction docs with
  | nil => rfl
  | cons a as ih => by_cases h : a.1 = k <;> simp [Docs.get?, h, ih]

theorem Docs.get?_mem {docs : Docs} {k : String} {r : Row} (h : docs.get? k = some r) : (k, r) ∈ docs := by
  induction docs with
  | nil => cases h
  | cons hd tl ih =>
    unfold Docs.get? at h
    split at h
    · rename_i hk; cases h; rw [← hk]; exact List.mem_cons_self
    · exact List.mem_cons_of_mem _ (ih h)

theorem Docs.mem_put {docs : Docs} {k : String} {r : Row} {d : String × Row} (h : d ∈ docs.put k r) : d = (k, r) ∨ d ∈ docs := by
  induction docs with
  | nil => exact Or.inl (List.mem_singleton.mp h)
  | cons a as ih =>
    unfold Docs.put at h
    split at h
    · rename_i hk
      exact (List.mem_cons.mp h).imp (fun e => by rw [e, hk]) (List.mem_cons_of_mem _)
    · exact (List.mem_cons.mp h).elim (fun e => Or.inr (e ▸ List.mem_cons_self))
        (fun h' => (ih h').imp_right (List.mem_cons_of_mem _))

/-- Every stored row satisfies `P`. -/
def DocsAll (P : Row → Prop) (docs : Docs) : Prop := ∀ p ∈ docs, P p.2

theorem DocsAll.get {P : Row → Prop} {docs : Docs} (h : DocsAll P docs) {k : String} {r : Row} (hg : docs.get? k = some r) : P r :=
  h (k, r) (Docs.get?_mem hg)

theorem DocsAll.put {P : Row → Prop} {docs : Docs} (h : DocsAll P docs) (k : String) (r : Row) (hr : P r) :
    DocsAll P (docs.put k r) :=
  fun p hp => (Docs.mem_put hp).elim (fun e => e ▸ hr) (h p)

theorem DocsAll.filter {P : Row → Prop} {docs : Docs} (h : DocsAll P docs) (f : String × Row → Bool) :
    DocsAll P (docs.filter f) := fun p hp => h p (List.mem_filter.mp hp).1

/-- An insertion that puts the new element in front or steps past the head makes a permutation, and folding it over a list sorts a
permutation of the list: all that the proofs need to know of the model's insertion sorts (`insertByCas`, `insertByExp`, `View.insertRow`). -/
theorem foldr_insert_perm {α : Type} {ins : α → List α → List α} (h0 : ∀ x, ins x [] = [x])
    (h1 : ∀ x y ys, ins x (y :: ys) = x :: y :: ys ∨ ins x (y :: ys) = y :: ins x ys) :
    (∀ x l, (ins x l).Perm (x :: l)) ∧ ∀ l : List α, (l.foldr ins []).Perm l := by
  have hins : ∀ x l, (ins x l).Perm (x :: l) := by
    intro x l
    induction l with
    | nil => rw [h0]
    | cons y ys ih =>
      rcases h1 x y ys with h | h <;> rw [h]
      exact (List.Perm.cons y ih).trans (List.Perm.swap x y ys)
  refine ⟨hins, fun l => ?_⟩
  induction l with
  | nil => exact .refl _
  | cons x xs ih => exact (hins x _).trans (List.Perm.cons x ih)

/-! ### Collections in the state -/

theorem State.coll?_setColl_same {s : State} {c : String} {x0 : Coll} (x : Coll) (h : s.coll? c = some x0) :
    (s.setColl c x).coll? c = some x := by
  unfold State.coll? State.setColl at *
  dsimp only
  generalize s.colls = l at h ⊢
  induction l with
  | nil => cases h
  | cons hd tl ih =>
    by_cases hc : hd.1 = c
    · simp [hc]
    · simp only [List.find?, hc, decide_false, List.map_cons, if_false] at h ⊢
      exact ih h

theorem State.coll?_setColl_other (s : State) {c c' : String} (x : Coll) (h : c' ≠ c) :
    (s.setColl c x).coll? c' = s.coll? c' := by
  unfold State.coll? State.setColl
  dsimp only
  induction s.colls with
  | nil => rfl
  | cons hd tl ih => by_cases hc : hd.1 = c <;> by_cases hc' : hd.1 = c' <;> simp_all

theorem State.coll?_mem {s : State} {c : String} {x : Coll} (h : s.coll? c = some x) : ∃ p ∈ s.colls, p.2 = x := by
  unfold State.coll? at h
  obtain ⟨p, hf, rfl⟩ := Option.map_eq_some_iff.mp h
  exact ⟨p, List.mem_of_find?_eq_some hf, rfl⟩

theorem State.mem_setColl {s : State} {c : String} {x : Coll} {p : String × Coll} (hp : p ∈ (s.setColl c x).colls) :
    p ∈ s.colls ∨ (p.1 = c ∧ p.2 = x) := by
  obtain ⟨q, hq, rfl⟩ := List.mem_map.mp hp
  split
  · exact Or.inr ⟨‹_›, rfl⟩
  · exact Or.inl hq

theorem State.row?_def (s : State) (c k : String) : s.row? c k = (s.coll? c).bind (fun x => x.docs.get? k) := by
  unfold State.row?; cases s.coll? c <;> rfl

theorem State.row?_of_coll {s : State} {c : String} {x : Coll} (hx : s.coll? c = some x) (k : String) : s.row? c k = x.docs.get? k := by
  rw [State.row?_def, hx]; rfl

theorem initState_colls {p : String × Coll} (h : p ∈ initState.colls) : p.2.docs = [] ∧ p.2.lastCas = 0 := by
  simp only [initState, List.mem_cons, List.not_mem_nil, or_false] at h
  rcases h with rfl | rfl | rfl <;> exact ⟨rfl, rfl⟩

/-- Every stored row of every collection satisfies `P`. -/
def StateAll (P : Row → Prop) (s : State) : Prop := ∀ p ∈ s.colls, DocsAll P p.2.docs

theorem StateAll.coll {P : Row → Prop} {s : State} (hs : StateAll P s) {c : String} {x : Coll} (h : s.coll? c = some x) :
    DocsAll P x.docs := by
  obtain ⟨p, hp, rfl⟩ := State.coll?_mem h
  exact hs p hp

theorem StateAll.row {P : Row → Prop} {s : State} (hs : StateAll P s) {c k : String} {r : Row} (hr : s.row? c k = some r) : P r := by
  cases hx : s.coll? c with
  | none => rw [State.row?_def, hx] at hr; cases hr
  | some x => exact (hs.coll hx).get (State.row?_of_coll hx k ▸ hr)

theorem StateAll.setColl {P : Row → Prop} {s : State} (hs : StateAll P s) (c : String) (x : Coll) (hx : DocsAll P x.docs) :
    StateAll P (s.setColl c x) :=
  fun _ hp => (State.mem_setColl hp).elim (hs _) (fun h => h.2 ▸ hx)

theorem StateAll.of_colls_eq {P : Row → Prop} {s s' : State} (h : s'.colls = s.colls) (hs : StateAll P s) : StateAll P s' :=
  fun p hp => hs p (h ▸ hp)

/-! ### What a single-row transaction does -/

/-- The row a successful row-level write stores: the new row with the identity of the row it replaces. -/
def storedRow (old : Option Row) (nid : Nat) (r' : Row) : Row :=
  { r' with rowid := match old with | some o => o.rowid | none => nid }

/-- When `liftRow` succeeds: nothing was stored and the table is as it was, or the row function's row was stored under `k`. -/
theorem liftRow_inr {k : String} {f : RowFn} {nc now nid : Nat} {docs docs' : Docs} {nid' : Nat} {ev : Option Event} {o : Out}
    (h : liftRow k f nc now nid docs = .inr (docs', nid', ev, o)) :
    (f nc now (docs.get? k) = .inr (none, ev, o) ∧ docs' = docs) ∨
    ∃ r', f nc now (docs.get? k) = .inr (some r', ev, o) ∧ docs' = docs.put k (storedRow (docs.get? k) nid r') := by
  unfold liftRow at h
  split at h
  · cases h
  · rename_i hf; cases h; exact Or.inl ⟨hf, rfl⟩
  · rename_i r' _ _ hf
    split at h <;> rename_i hg <;> cases h <;> exact Or.inr ⟨r', hf, by rw [hg]; rfl⟩

/-- `liftRow` fails exactly when the row function does, with its result. -/
theorem liftRow_inl {k : String} {f : RowFn} {nc now nid : Nat} {docs : Docs} {o : Out} :
    liftRow k f nc now nid docs = .inl o ↔ f nc now (docs.get? k) = .inl o := by
  unfold liftRow
  split <;> rename_i hf <;> rw [hf]
  · simp
  · simp
  · split <;> simp

@[simp] theorem postPending_colls (s : State) (c : String) (p : Option (Nat × Event)) : (postPending s c p).colls = s.colls := by
  cases p <;> rfl

@[simp] theorem postPending_acked (s : State) (c : String) (p : Option (Nat × Event)) : (postPending s c p).acked = s.acked := by
  cases p <;> rfl

@[simp] theorem postPending_lastCas (s : State) (c : String) (p : Option (Nat × Event)) : (postPending s c p).lastCas = s.lastCas := by
  cases p <;> rfl

@[simp] theorem postPending_hlc (s : State) (c : String) (p : Option (Nat × Event)) : (postPending s c p).hlc = s.hlc := by
  cases p <;> rfl

@[simp] theorem postPending_coll? (s : State) (c : String) (p : Option (Nat × Event)) (c' : String) :
    (postPending s c p).coll? c' = s.coll? c' := by
  cases p <;> rfl

theorem commit_coll?_same {s : State} {c : String} {x : Coll} (h : s.coll? c = some x) (nc nid : Nat) (docs' : Docs) :
    (commit s c x nc nid docs').coll? c = some { x with docs := docs', lastCas := nc } :=
  State.coll?_setColl_same (s := { s with hlc := nc, lastCas := nc, nextRowId := nid, acked := nc :: s.acked }) _ h

theorem commit_coll?_other (s : State) {c c' : String} (x : Coll) (nc nid : Nat) (docs' : Docs) (h : c' ≠ c) :
    (commit s c x nc nid docs').coll? c' = s.coll? c' :=
  State.coll?_setColl_other _ _ h

/-- The three ways a `withNewCas` call can go: no such collection; the closure fails and only the clock has moved; the
closure's result is committed and its event posted. -/
theorem withNewCas_cases {motive : State × Out → Prop} (s : State) (c : String) (fn : TxnFn)
    (closed : s.coll? c = none → motive (s, { err := .closed }))
    (failed : ∀ x out, s.coll? c = some x → fn (hlcNow s.hlc s.phys) s.now s.nextRowId x.docs = .inl out →
      motive ({ s with hlc := hlcNow s.hlc s.phys }, out))
    (committed : ∀ x docs' nid ev out, s.coll? c = some x →
      fn (hlcNow s.hlc s.phys) s.now s.nextRowId x.docs = .inr (docs', nid, ev, out) →
      motive (postPending (commit s c x (hlcNow s.hlc s.phys) nid docs') c (ev.map (x.id, ·)), out)) :
    motive (withNewCas s c fn) := by
  unfold withNewCas
  split
  · exact closed ‹_›
  · dsimp only
    split
    · exact failed _ _ ‹_› ‹_›
    · rename_i ev _ _
      cases ev <;> exact committed _ _ _ _ _ ‹_› ‹_›

/-- A WithMeta write goes the same three ways, without the clock: nothing but the table and the row counter is committed. -/
theorem opWriteWithMeta_cases {motive : State × Out → Prop} (s : State) (c k : String) (old new exp : Nat) (xs : Xattrs)
    (body : Option String) (j d : Bool)
    (closed : s.coll? c = none → motive (s, { err := .closed }))
    (failed : ∀ out, motive (s, out))
    (committed : ∀ x docs' nid ev out, s.coll? c = some x →
      liftRow k (wmetaRow k old new exp xs body j d) new s.now s.nextRowId x.docs = .inr (docs', nid, ev, out) →
      motive (postPending (({ s with nextRowId := nid } : State).setColl c { x with docs := docs' }) c (ev.map (x.id, ·)), out)) :
    motive (opWriteWithMeta s c k old new exp xs body j d) := by
  unfold opWriteWithMeta
  split
  · exact closed ‹_›
  · split
    · exact failed _
    · rename_i ev _ _
      cases ev <;> exact committed _ _ _ _ _ ‹_› ‹_›

/-- Arming the timer after a touch changes the timer and nothing else. -/
theorem armOnSuccess_eq (r : State × Out) (exp : Nat) :
    armOnSuccess r exp =
      ({ r.1 with expNext := if r.2.err = .ok then schedAtOrBefore r.1.expNext exp else r.1.expNext }, r.2) := by
  unfold armOnSuccess; split <;> rfl

/-- Other collections are untouched by a transaction on `c` (frame, C11). -/
theorem withNewCas_coll?_other (s : State) (c c' : String) (fn : TxnFn) (h : c' ≠ c) :
    (withNewCas s c fn).1.coll? c' = s.coll? c' :=
  withNewCas_cases (motive := fun r => r.1.coll? c' = s.coll? c') s c fn (fun _ => rfl) (fun _ _ _ _ => rfl)
    fun x _ _ _ _ _ _ => by rw [postPending_coll?, commit_coll?_other s x _ _ _ h]

/-- The collection a transaction runs on is as it was, or has the closure's table and the CAS just drawn as its mark. -/
theorem withNewCas_coll?_same (s : State) (c : String) (fn : TxnFn) (x : Coll) (hx : s.coll? c = some x) :
    (withNewCas s c fn).1.coll? c = some x ∨
    ∃ docs' nid ev out, fn (hlcNow s.hlc s.phys) s.now s.nextRowId x.docs = .inr (docs', nid, ev, out) ∧
      (withNewCas s c fn).1.coll? c = some { x with docs := docs', lastCas := hlcNow s.hlc s.phys } := by
  refine withNewCas_cases (motive := fun r => r.1.coll? c = some x ∨ ∃ docs' nid ev out,
      fn (hlcNow s.hlc s.phys) s.now s.nextRowId x.docs = .inr (docs', nid, ev, out) ∧
      r.1.coll? c = some { x with docs := docs', lastCas := hlcNow s.hlc s.phys }) s c fn
    (fun _ => Or.inl hx) (fun _ _ _ _ => Or.inl hx) fun x' docs' nid ev out hx' hfn => ?_
  cases hx.symm.trans hx'
  exact Or.inr ⟨docs', nid, ev, out, hfn, by rw [postPending_coll?, commit_coll?_same hx]⟩

/-- `Q` holds of every row function an entry point can run (with the key it runs it on). -/
structure Family (Q : String → RowFn → Prop) : Prop where
  add : ∀ k exp v j, Q k (addRow k exp v j)
  set : ∀ k exp pe v j, Q k (setRow k exp pe v j)
  incr : ∀ k amt d exp, Q k (incrRow k amt d exp)
  wcas : ∀ k exp cas v o, Q k (wcasRow k exp cas v o)
  remove : ∀ k ifCas, Q k (removeRow k ifCas)
  touch : ∀ k exp, Q k (touchRow exp)
  wwx : ∀ k val edits ifCas exp o m, Q k (wwxRow k val edits ifCas exp o m)
  delx : ∀ k names, Q k (delxRow k names)
  dsp : ∀ k names, Q k (dspRow k names)

end Rosmar
