import Rosmar.View
import Rosmar.Proofs.Lemmas
/-! sg-bucket's Go-value collator agrees with the JSON collation on values that contain no object. -/
namespace Rosmar.View

mutual
  def VJ.objFree : VJ → Bool
    | .arr xs => VJList.objFree xs
    | .obj _ => false
    | _ => true
  def VJList.objFree : VJList → Bool
    | .nil => true
    | .cons x rest => VJ.objFree x && VJList.objFree rest
end

-- The two functions differ only on two objects, and the traversal never gets to two objects when the left value holds none:
-- two arrays both go element by element, and otherwise both compare the type ranks, two numbers or two strings.
mutual
  theorem collateGo_eq_of_objFree : ∀ (a b : VJ), a.objFree = true → collateGo a b = collate a b
    | .arr xs, b, ha => by
      cases b with
      | arr ys => exact collateGoList_eq_of_objFree xs ys ha
      | _ => rfl
    | .obj _, _, ha => nomatch ha
    | .null, b, _ | .bool _, b, _ | .num _, b, _ | .str _, b, _ => by cases b <;> rfl
  theorem collateGoList_eq_of_objFree : ∀ (a b : VJList), a.objFree = true → collateGoList a b = collateList a b
    | .nil, .nil, _ | .nil, .cons _ _, _ | .cons _ _, .nil, _ => rfl
    | .cons x xs, .cons y ys, ha => by
      rw [VJList.objFree, Bool.and_eq_true] at ha
      unfold collateGoList collateList
      rw [collateGo_eq_of_objFree x y ha.1, collateGoList_eq_of_objFree xs ys ha.2]
end

theorem collateGo_eq_collate : ∀ (a b : VJ), a.objFree = true → b.objFree = true → collateGo a b = collate a b :=
  fun a b ha _ => collateGo_eq_of_objFree a b ha

theorem collateGoList_eq_collateList : ∀ (a b : VJList), a.objFree = true → b.objFree = true → collateGoList a b = collateList a b :=
  fun a b ha _ => collateGoList_eq_of_objFree a b ha

theorem VJList.toList_ofList : ∀ l : List VJ, (VJList.ofList l).toList = l
  | [] => rfl
  | x :: r => congrArg (x :: ·) (toList_ofList r)

theorem VJList.objFree_eq_all : ∀ xs : VJList, xs.objFree = xs.toList.all VJ.objFree
  | .nil => rfl
  | .cons x r => congrArg (x.objFree && ·) (objFree_eq_all r)

theorem objFree_keyPrefix (n : Nat) (k : VJ) (h : k.objFree = true) : (keyPrefix n k).objFree = true := by
  cases k with
  | arr xs =>
    -- the elements of a prefix are elements of the list
    rw [VJ.objFree, VJList.objFree_eq_all, List.all_eq_true] at h
    rw [keyPrefix, VJ.objFree, VJList.objFree_eq_all, VJList.toList_ofList, List.all_eq_true]
    exact fun y hy => h y (List.mem_of_mem_take hy)
  | _ => exact h

/-! ### Lifting to the query: when every emitted key is object-free, the query as rosmar runs it (Go-value collator in the `keys`
selection and the grouping, each time with a row's key on the left) is the query with the JSON collation. -/

theorem mem_sortRows {y : VRow} {l : List VRow} (h : y ∈ sortRows l) : y ∈ l :=
  ((foldr_insert_perm (ins := insertRow) (fun _ => rfl) fun x y ys => by simp only [insertRow]; split <;> simp).2 l).mem_iff.mp h

theorem mem_takeLimit {l : Option Nat} {rows : List VRow} {y : VRow} (h : y ∈ takeLimit l rows) : y ∈ rows := by
  cases l with
  | none => exact h
  | some n => exact List.mem_of_mem_take h

theorem mem_sqlStage {p : Params} {rows : List VRow} {y : VRow} (h : y ∈ sqlStage p rows) : y ∈ rows := by
  unfold sqlStage at h
  simp only at h
  have h1 := mem_takeLimit h
  split at h1
  · exact mem_sortRows (List.mem_filter.mp (List.mem_reverse.mp h1)).1
  · exact mem_sortRows (List.mem_filter.mp h1).1

theorem groupRows_congr (fn : String) (lvl : Nat) (rows : List VRow) (hrows : ∀ r ∈ rows, r.key.objFree = true)
    (st : Option (VJ × List VRow)) : groupRows collateGo fn lvl st rows = groupRows collate fn lvl st rows := by
  induction rows generalizing st with
  | nil => cases st <;> rfl
  | cons r rest ih =>
    have ih := ih fun r' h => hrows r' (List.mem_cons_of_mem _ h)
    rcases st with _ | ⟨k, acc⟩
    · exact ih _
    · -- the key held against the group's is the row's key or a prefix of it
      have hk' : (if lvl > 0 then keyPrefix lvl r.key else r.key).objFree = true := by
        split
        · exact objFree_keyPrefix lvl r.key (hrows r List.mem_cons_self)
        · exact hrows r List.mem_cons_self
      unfold groupRows
      dsimp only
      rw [collateGo_eq_of_objFree _ k hk', ih, ih]

theorem filterKeys_congr (ks : List VJ) (rows : List VRow) (hrows : ∀ r ∈ rows, r.key.objFree = true) :
    filterKeys collateGo ks rows = filterKeys collate ks rows :=
  congrArg List.flatten (List.map_congr_left fun t _ => List.filter_congr fun r hr => by
    rw [collateGo_eq_of_objFree _ t (hrows r hr)])

/-- **On object-free keys rosmar's query is the query under the JSON collation.** -/
theorem queryRows_eq_with_collate (p : Params) (red : String) (idx : List (String × List Emit))
    (hidx : ∀ r ∈ flatten idx, r.key.objFree = true) : queryRows p red idx = queryRowsWith collate p red idx := by
  unfold queryRows queryRowsWith processStage
  have hsql : ∀ r ∈ sqlStage p (flatten idx), r.key.objFree = true := fun r h => hidx r (mem_sqlStage h)
  -- the two collators meet in the `keys` selection and in the grouping, on rows that passed the SQL stage
  cases p.keys with
  | none => simp only [groupRows_congr red _ _ hsql]
  | some ks =>
    have hsel : ∀ r ∈ filterKeys collate ks (sqlStage p (flatten idx)), r.key.objFree = true := fun r hr => by
      obtain ⟨t, _, hr'⟩ := List.mem_flatMap.mp hr
      exact hsql r (List.mem_filter.mp hr').1
    simp only [filterKeys_congr ks _ hsql, groupRows_congr red _ _ hsel]

end Rosmar.View
