/-
  Row-level facts about insert-style, CAS-conditional and deleting writes (C01–C03, C05, C06, C14).
-/
import Rosmar.Proofs.Shape
namespace Rosmar

/-- The key has no body: no row at all, or a row without a value. -/
def NoBody (old : Option Row) : Prop := ∀ r, old = some r → r.value = none

/-- On a coherent row "no body" is what the insert-style statements test: no row, or the tombstone flag. -/
theorem noBody_iff_tomb {old : Option Row} (hc : OldCoh old) : NoBody old ↔ ∀ r, old = some r → r.tomb = true :=
  forall_congr' fun r => imp_congr_right fun hr => (hc r hr).symm

/-! ### Add -/

/-- `Add` on a key without a row, or with a tombstone, stores the value with no xattrs and says so; on a live row it stores
nothing and says that. -/
theorem addRow_cases (k : String) (exp : Nat) (v : String) (j : Bool) (nc now : Nat) (old : Option Row) :
    ((∀ r, old = some r → r.tomb = true) ∧ ∃ r' ev, addRow k exp v j nc now old = .inr (some r', ev, { added := true }) ∧
        r'.value = some v ∧ r'.xattrs = [] ∧ r'.tomb = false) ∨
    ((∃ r, old = some r ∧ r.tomb = false) ∧ addRow k exp v j nc now old = .inr (none, none, { added := false })) := by
  unfold addRow
  cases old with
  | none => exact .inl ⟨fun _ h => (nomatch h), _, _, rfl, rfl, rfl, rfl⟩
  | some r =>
    cases ht : r.tomb
    · exact .inr ⟨⟨r, rfl, ht⟩, by simp only [ht]; rfl⟩
    · exact .inl ⟨fun _ h => by cases h; exact ht, _, _, by simp only [ht]; rfl, rfl, rfl, rfl⟩

/-! ### WriteCas -/

/-- Insert-style `WriteCas` (CAS 0, or `AddOnly` on an existing row; not `Append`): succeeds iff the key has no body. -/
theorem wcasRow_insert_iff (k : String) (exp cas : Nat) (v : Option String) (o : WOpts) (nc now : Nat) (old : Option Row)
    (hc : OldCoh old) (happ : o.append = false) (hins : cas = 0 ∨ (o.addOnly = true ∧ old ≠ none)) :
    (∃ r' ev out, wcasRow k exp cas v o nc now old = .inr (some r', ev, out)) ↔ NoBody old := by
  have hb : o.addOnly = true ∨ cas = 0 := hins.symm.imp_left (·.1)
  rw [noBody_iff_tomb hc]
  constructor
  · -- it stored: the insert-style statement only applies to a tombstone
    rintro ⟨r', ev, out, h⟩
    simpa only [happ, Bool.false_eq_true, if_false, hb, if_true] using (wcasRow_inr h).2.2.2
  · -- it is not refused as missing, the insert-style statement is the one chosen, and that applies to no row and to a tombstone
    intro ht
    unfold wcasRow
    split
    · rename_i n
      exact absurd rfl (hins.resolve_left (Nat.succ_ne_zero n)).2
    · dsimp only
      rw [happ, if_neg Bool.false_ne_true, if_pos hb]
      cases old with
      | none => exact ⟨_, _, _, rfl⟩
      | some r => dsimp only; rw [if_pos (ht r rfl)]; exact ⟨_, _, _, rfl⟩

/-- When `WriteCas` applies none of its statements, the reason it gives is an error. -/
theorem wcasRow_inl {k : String} {exp cas : Nat} {v : Option String} {o : WOpts} {nc now : Nat} {old : Option Row} {out : Out}
    (h : wcasRow k exp cas v o nc now old = .inl out) : out.err ≠ .ok := by
  unfold wcasRow at h
  split at h
  · cases h; exact nofun
  · dsimp only at h
    split at h
    · repeat' split at h
      all_goals cases h; exact nofun
    · cases h

/-! ### Remove -/

/-- What `Remove` / `Delete` store: the row they read without body, user xattrs and expiry, and only the version named, if one is. -/
theorem removeRow_inr {k : String} {ifCas : Option Nat} {nc now : Nat} {old : Option Row} {r' : Row} {ev : Option Event} {o : Out}
    (h : removeRow k ifCas nc now old = .inr (some r', ev, o)) :
    ∃ r, old = some r ∧ (∀ cas, ifCas = some cas → r.cas = cas) ∧
      r' = { r with value := none, cas := nc, exp := 0, isJSON := false, xattrs := Xattrs.systemOnly r.xattrs, tomb := true,
                    rev := r.rev + 1 } := by
  unfold removeRow at h
  split at h
  · cases h
  · split at h
    · cases h
    · rename_i hne
      cases h
      exact ⟨_, rfl, fun cas hc => by subst hc; simpa [eq_comm] using hne, rfl⟩

/-! ### The CAS-conditional calls -/

/-- A row function writes only onto the version with CAS `cas` (0 = no such document), and stamps the CAS just drawn. -/
def WritesOnVersion (cas : Nat) (_k : String) (f : RowFn) : Prop :=
  ∀ nc now old r' ev out, f nc now old = .inr (some r', ev, out) → casOf old = cas ∧ r'.cas = nc

/-- `WriteCas` with a non-zero CAS and without `AddOnly`. -/
theorem wcasRow_writesOnVersion {k : String} {exp cas : Nat} {v : Option String} {o : WOpts} (hcas : cas ≠ 0)
    (hadd : o.addOnly = false) : WritesOnVersion cas k (wcasRow k exp cas v o) := by
  intro nc now old r' ev out h
  obtain ⟨rfl, _, _, hv⟩ := wcasRow_inr h
  refine ⟨?_, rfl⟩
  simp only [hadd, hcas, Bool.false_eq_true, or_self, if_false] at hv
  split at hv
  · obtain ⟨r, _, rfl, _, hc⟩ := hv; exact hc
  · obtain ⟨r, rfl, hc⟩ := hv; exact hc

theorem removeRow_writesOnVersion {k : String} {cas : Nat} : WritesOnVersion cas k (removeRow k (some cas)) := by
  intro nc now old r' ev out h
  obtain ⟨r, rfl, hc, rfl⟩ := removeRow_inr h
  exact ⟨hc cas rfl, rfl⟩

/-- A CAS supplied to `writeWithXattrs` is honoured, 0 included. -/
theorem wwxRow_writesOnVersion {k : String} {val : ValArg} {edits : List XEdit} {cas : Nat} {exp : Option Nat} {o : XOpts} {m : Macros} :
    WritesOnVersion cas k (wwxRow k val edits (some cas) exp o m) := by
  intro nc now old r' ev out h
  obtain ⟨_, _, c0, _, _, _, hpre, hmis, _, _, hc, _⟩ := wwxRow_inr h
  obtain ⟨_, rfl, _⟩ := wwxPre_inr hpre
  simp only [ifCasMismatch, bne_eq_false_iff_eq] at hmis
  exact ⟨hmis.symm, hc⟩

end Rosmar
