/-
  Generic lifting of invariants through every API call, `step` and `run`.

  `StepInvariant I`: `I` is preserved by each primitive transition (a single-row transaction of any row function
  of the family, a WithMeta write, a purge, the expiry sweep, arming the timer, clock changes, feed bookkeeping).
  Then `I` is preserved by every `step` — including the compound read-modify-write loops, which are sequences of
  single-row transactions — and hence holds in every reachable state (`run_inv`).

  `RowInvariant P` (every row-level write function establishes `P` for the row it stores) yields
  `StepInvariant (StateAll P)`.
-/
import Rosmar.Proofs.Lemmas
namespace Rosmar

/-- Well-formed calls: a WithMeta write says "deletion" exactly when it carries no body. -/
def Op.WF : Op → Prop
  | .wmeta _ _ _ _ _ _ body _ d => d = body.isNone
  | _ => True

/-- `Q` holds of every row function run inside a CAS-giving transaction (all of the family except the touch, which
    is followed by arming the timer and is treated as a whole by `StepInvariant.touchOp`). -/
structure TxnFamily (Q : String → RowFn → Prop) : Prop where
  add : ∀ k exp v j, Q k (addRow k exp v j)
  set : ∀ k exp pe v j, Q k (setRow k exp pe v j)
  incr : ∀ k amt d exp, Q k (incrRow k amt d exp)
  wcas : ∀ k exp cas v o, Q k (wcasRow k exp cas v o)
  remove : ∀ k ifCas, Q k (removeRow k ifCas)
  wwx : ∀ k val edits ifCas exp o m, Q k (wwxRow k val edits ifCas exp o m)
  delx : ∀ k names, Q k (delxRow k names)
  dsp : ∀ k names, Q k (dspRow k names)

theorem Family.toTxn {Q : String → RowFn → Prop} (h : Family Q) : TxnFamily Q :=
  { add := h.add, set := h.set, incr := h.incr, wcas := h.wcas, remove := h.remove, wwx := h.wwx, delx := h.delx, dsp := h.dsp }

theorem TxnFamily.of_all {Q : String → RowFn → Prop} (h : ∀ k f, Q k f) : TxnFamily Q :=
  { add := fun _ _ _ _ => h .., set := fun _ _ _ _ _ => h .., incr := fun _ _ _ _ => h .., wcas := fun _ _ _ _ _ => h ..,
    remove := fun _ _ => h .., wwx := fun _ _ _ _ _ _ _ => h .., delx := fun _ _ => h .., dsp := fun _ _ => h .. }

theorem TxnFamily.toFamily {Q : String → RowFn → Prop} (h : TxnFamily Q) (ht : ∀ k exp, Q k (touchRow exp)) : Family Q :=
  { add := h.add, set := h.set, incr := h.incr, wcas := h.wcas, remove := h.remove, touch := ht, wwx := h.wwx, delx := h.delx, dsp := h.dsp }

theorem TxnFamily.mapInv {Q R : String → RowFn → Prop} (h : TxnFamily Q) (f : ∀ k g, Q k g → R k g) : TxnFamily R :=
  { add := fun k e v j => f _ _ (h.add k e v j), set := fun k e p v j => f _ _ (h.set k e p v j),
    incr := fun k a d e => f _ _ (h.incr k a d e), wcas := fun k e c v o => f _ _ (h.wcas k e c v o),
    remove := fun k ic => f _ _ (h.remove k ic), wwx := fun k v ed ic ex o m => f _ _ (h.wwx k v ed ic ex o m),
    delx := fun k n => f _ _ (h.delx k n), dsp := fun k n => f _ _ (h.dsp k n) }

structure StepInvariant (W : Op → Prop) (I : State → Prop) : Prop where
  txn : TxnFamily (fun k f => ∀ s c, I s → I (withNewCas s c (liftRow k f)).1)
  touchOp : ∀ s c k exp, I s → I (opTouch s c k exp).1
  wmeta : ∀ s c k old new exp xs body j d, W (.wmeta c k old new exp xs body j d) → I s → I (opWriteWithMeta s c k old new exp xs body j d).1
  draw : ∀ s, I s → I { s with hlc := hlcNow s.hlc s.phys }
  restart : ∀ s p, W (.restart p) → I s → I (reopen s p)
  purge : ∀ s, W .purge → I s → I (opPurge s).1
  arm : ∀ s e, I s → I { s with expNext := schedAtOrBefore s.expNext e }
  fire : ∀ s, I s → I (opFireExpiry s)
  clock : ∀ s t, I s → I { s with phys := t }
  now : ∀ s n, I s → I { s with now := n }
  feeds : ∀ s fs, I s → I { s with feeds := fs }

/-- Every row function a shape can run satisfies `Q`. -/
def OpShape.All (Q : String → RowFn → Prop) : OpShape → Prop
  | .rejected _ => True
  | .row _ k f => Q k f

/-! The `*WithXattrs` entry points check their arguments and then all run `wwxRow` on the addressed key, with the CAS and the macros they
were given. -/

theorem wwxShape_all {Q : String → RowFn → Prop} {c k : String} {val : ValArg} {edits : List XEdit} {ifCas exp : Option Nat} {o : XOpts}
    {m : Macros} (hQ : Q k (wwxRow k val edits ifCas exp o m)) : (wwxShape c k val edits ifCas exp o m).All Q := by
  unfold wwxShape; split <;> simp [OpShape.All, hQ]

section
variable {Q : String → RowFn → Prop} {c k : String} {cas : Nat} {m : Macros}
  (hQ : ∀ val edits exp o, Q k (wwxRow k val edits (some cas) exp o m))
include hQ

theorem shapeUpdateXattrs_all (exp : Nat) (sets : Sets) : (shapeUpdateXattrs c k exp cas sets m).All Q := by
  unfold shapeUpdateXattrs
  split
  · trivial
  · exact wwxShape_all (hQ ..)

theorem shapeWriteWithXattrs_all (exp : Nat) (v : Option String) (sets : Sets) (dels : Option (List String)) (pe : Bool) :
    (shapeWriteWithXattrs c k exp cas v sets dels pe m).All Q := by
  unfold shapeWriteWithXattrs
  repeat' split
  all_goals first | trivial | exact wwxShape_all (hQ ..)

theorem shapeWriteTombstoneWithXattrs_all (exp : Nat) (sets : Sets) (dels : Option (List String)) (db : Bool) :
    (shapeWriteTombstoneWithXattrs c k exp cas sets dels db m).All Q := by
  unfold shapeWriteTombstoneWithXattrs
  repeat' split
  all_goals first | trivial | exact wwxShape_all (hQ ..)

end

theorem shapeWriteResurrectionWithXattrs_all {Q : String → RowFn → Prop} {c k : String} {m : Macros}
    (hQ : ∀ val edits exp o, Q k (wwxRow k val edits none exp o m)) (exp : Nat) (v : Option String) (sets : Sets) (pe : Bool) :
    (shapeWriteResurrectionWithXattrs c k exp v sets pe m).All Q := by
  unfold shapeWriteResurrectionWithXattrs
  repeat' split
  all_goals first | trivial | exact wwxShape_all (hQ ..)

theorem ite_fst {P : State → Prop} {p : Prop} [Decidable p] {a b : State × Out} (ha : P a.1) (hb : P b.1) :
    P (if p then a else b).1 := by
  split <;> assumption

/-! ### The compound calls are loops over single-row calls -/

/-- Whatever every `WriteCas` on `(c, k)` preserves, `Update` on `(c, k)` preserves: its loop runs nothing else. -/
theorem opUpdate_induction {P : State → Prop} (c k : String)
    (hw : ∀ s e cas v, P s → P (opWriteCas s c k e cas v {}).1) (fuel : Nat) :
    ∀ (s : State) (exp : Nat) (steps : List UpdStep) (calls : Nat) (seen : List String),
      P s → P (opUpdate fuel s c k exp steps calls seen).1 := by
  induction fuel with
  | zero => exact fun _ _ _ _ _ hs => hs
  | succ n ih =>
    intro s exp steps calls seen hs
    -- the closure `write`: one `WriteCas`, then stop, or go round again on a CAS mismatch
    have write (v e cas a b rest calls seen) :
        P (if (opWriteCas s c k e cas v {}).2.err = .ok then ((opWriteCas s c k e cas v {}).1, a)
           else if (opWriteCas s c k e cas v {}).2.err = .casMismatch then
             opUpdate n (opWriteCas s c k e cas v {}).1 c k exp rest calls seen
           else ((opWriteCas s c k e cas v {}).1, b)).1 :=
      ite_fst (hw _ _ _ _ hs) (ite_fst (ih _ _ _ _ _ (hw _ _ _ _ hs)) (hw _ _ _ _ hs))
    unfold opUpdate
    simp only
    cases steps.head?.getD .cancel with
    | set | del | exp => exact write ..
    | cancel | err => exact hs
    | retry => exact ih _ _ _ _ _ hs
    | delif | setifnil => exact ite_fst (write ..) hs

/-- Likewise `WriteUpdateWithXattrs` and the three `*WithXattrs` calls its loop chooses from. -/
theorem opWuwx_induction {P : State → Prop} (c k : String)
    (hwt : ∀ s exp cas sets dels db m, P s → P (opWriteTombstoneWithXattrs s c k exp cas sets dels db m).1)
    (hwr : ∀ s exp v sets pe m, P s → P (opWriteResurrectionWithXattrs s c k exp v sets pe m).1)
    (hww : ∀ s exp cas v sets dels pe m, P s → P (opWriteWithXattrs s c k exp cas v sets dels pe m).1) (fuel : Nat) :
    ∀ (s : State) (names : List String) (steps : List WuStep) (sets : Sets) (dels : Option (List String)) (m : Macros)
      (cbExp : Option Nat) (pe : Bool) (am : Macros) (calls : Nat) (seen : List String),
      P s → P (opWuwx fuel s c k names steps sets dels m cbExp pe am calls seen).1 := by
  induction fuel with
  | zero => exact fun _ _ _ _ _ _ _ _ _ _ _ hs => hs
  | succ n ih =>
    intro s names steps sets dels m cbExp pe am calls seen hs
    -- the closure `finish`: after one write, stop, or go round again
    have finish (r : State × Out) (rest am calls seen) (hr : P r.1) :
        P (if r.2.err = .casMismatch ∨ r.2.err = .keyExists then opWuwx n r.1 c k names rest sets dels m cbExp pe am calls seen
           else (r.1, { r.2 with calls := calls, seen := seen, actual := none })).1 :=
      ite_fst (ih _ _ _ _ _ _ _ _ _ _ _ hr) hr
    unfold opWuwx
    simp only
    cases steps.head?.getD .err with
    | retry => exact ih _ _ _ _ _ _ _ _ _ _ _ hs
    | err => exact hs
    | tomb => exact finish _ _ _ _ _ (hwt _ _ _ _ _ _ _ hs)
    | doc | xonly =>
      exact ite_fst (ite_fst hs (finish _ _ _ _ _ (hwr _ _ _ _ _ _ hs))) (finish _ _ _ _ _ (hww _ _ _ _ _ _ _ _ hs))

section
variable {W : Op → Prop} {I : State → Prop} (hI : StepInvariant W I)
include hI

omit hI in
theorem runShape_inv (s : State) (sh : OpShape)
    (h : sh.All (fun k f => ∀ s c, I s → I (withNewCas s c (liftRow k f)).1)) (hs : I s) : I (runShape s sh).1 := by
  cases sh with
  | rejected e => exact hs
  | row c k f => exact h s c hs

theorem opWriteCas_inv (s : State) (c k : String) (exp cas : Nat) (v : Option String) (o : WOpts) (hs : I s) :
    I (opWriteCas s c k exp cas v o).1 := hI.txn.wcas k exp cas v o s c hs

theorem opWriteWithXattrs_inv (s : State) (c k : String) (exp cas : Nat) (v : Option String) (sets : Sets) (dels : Option (List String))
    (pe : Bool) (m : Macros) (hs : I s) : I (opWriteWithXattrs s c k exp cas v sets dels pe m).1 :=
  runShape_inv s _ (shapeWriteWithXattrs_all (fun _ _ _ _ => hI.txn.wwx _ _ _ _ _ _ _) ..) hs

theorem opWriteTombstoneWithXattrs_inv (s : State) (c k : String) (exp cas : Nat) (sets : Sets) (dels : Option (List String))
    (db : Bool) (m : Macros) (hs : I s) : I (opWriteTombstoneWithXattrs s c k exp cas sets dels db m).1 :=
  runShape_inv s _ (shapeWriteTombstoneWithXattrs_all (fun _ _ _ _ => hI.txn.wwx _ _ _ _ _ _ _) ..) hs

theorem opWriteResurrectionWithXattrs_inv (s : State) (c k : String) (exp : Nat) (v : Option String) (sets : Sets)
    (pe : Bool) (m : Macros) (hs : I s) : I (opWriteResurrectionWithXattrs s c k exp v sets pe m).1 :=
  runShape_inv s _ (shapeWriteResurrectionWithXattrs_all (fun _ _ _ _ => hI.txn.wwx _ _ _ _ _ _ _) ..) hs

theorem opSet_inv (s : State) (c k : String) (exp : Nat) (pe : Bool) (v : String) (raw : Bool) (hs : I s) :
    I (opSet s c k exp pe v raw).1 := hI.txn.set k exp pe v _ s c hs

theorem opSubdocWrite_inv (s : State) (c k path : String) (cas : Nat) (v : Option String) (ins : Bool) (hs : I s) :
    I (opSubdocWrite s c k path cas v ins).1 := by
  unfold opSubdocWrite
  split
  · exact hs
  · exact opWriteCas_inv hI _ _ _ _ _ _ _ hs

theorem opTouch_inv (s : State) (c k : String) (exp : Nat) (hs : I s) : I (opTouch s c k exp).1 := hI.touchOp s c k exp hs

theorem opStartFeed_inv (s : State) (id c : String) (bf : Backfill) (dump ko : Bool) (pfx : String) (hs : I s) :
    I (opStartFeed s id c bf dump ko pfx).1 := by
  unfold opStartFeed
  cases s.coll? c with
  | none => exact hs
  | some x =>
    simp only
    generalize hf : (List.filter (fun g => decide (g.id ≠ id)) s.feeds ++ [_]) = fs1
    by_cases hd : dump = true
    · simp only [hd, if_true]
      generalize hfs2 : List.map _ fs1 = fs2
      exact ite_fst (opSet_inv hI _ _ _ _ _ _ _ (hI.feeds s fs2 hs)) (hI.feeds s fs2 hs)
    · simp only [hd]
      exact hI.feeds s fs1 hs

theorem opStopFeed_inv (s : State) (id : String) (hs : I s) : I (opStopFeed s id).1 := by
  unfold opStopFeed
  cases s.feeds.find? (fun f => f.id = id) with
  | none => exact hs
  | some f =>
    simp only
    split
    · exact hs
    · generalize List.map _ s.feeds = fs
      exact ite_fst (opSet_inv hI _ _ _ _ _ _ _ (hI.feeds s fs hs)) (hI.feeds s fs hs)

theorem opDrain_inv (s : State) (id : String) (hs : I s) : I (opDrain s id).1 := by
  unfold opDrain
  cases s.feeds.find? (fun f => f.id = id) with
  | none => exact hs
  | some f => exact hI.feeds s _ hs

/-- One step preserves the invariant. -/
theorem step_inv (s : State) (op : Op) (hwf : W op) (hs : I s) : I (step s op).1 := by
  cases op with
  | clock t => exact hI.clock s t hs
  | now n => exact hI.now s n hs
  | add c k exp v json => exact hI.txn.add k exp v _ s c hs
  | set c k exp pe v raw => exact hI.txn.set k exp pe v _ s c hs
  | wcas c k exp cas v o => exact hI.txn.wcas k exp cas v o s c hs
  | remove c k cas => exact hI.txn.remove k _ s c hs
  | delete c k => exact hI.txn.remove k _ s c hs
  | touch c k exp => exact opTouch_inv hI s c k exp hs
  | incr c k amt d exp => exact hI.txn.incr k amt d exp s c hs
  | setx c k sets => exact runShape_inv s _ (wwxShape_all (hI.txn.wwx _ _ _ _ _ _ _)) hs
  | rmx c k names cas => exact runShape_inv s _ (wwxShape_all (hI.txn.wwx _ _ _ _ _ _ _)) hs
  | updx c k exp cas sets m => exact runShape_inv s _ (shapeUpdateXattrs_all (fun _ _ _ _ => hI.txn.wwx _ _ _ _ _ _ _) ..) hs
  | wwx c k exp cas v sets dels pe m => exact opWriteWithXattrs_inv hI _ _ _ _ _ _ _ _ _ _ hs
  | wtx c k exp cas sets dels db m => exact opWriteTombstoneWithXattrs_inv hI _ _ _ _ _ _ _ _ _ hs
  | wrx c k exp v sets pe m => exact opWriteResurrectionWithXattrs_inv hI _ _ _ _ _ _ _ _ hs
  | uxdb c k xk exp cas xv m => exact runShape_inv s _ (wwxShape_all (hI.txn.wwx _ _ _ _ _ _ _)) hs
  | delx c k names => exact hI.txn.delx k names s c hs
  | dsp c k names => exact hI.txn.dsp k names s c hs
  | wmeta c k old new exp xs body j d => exact hI.wmeta s c k old new exp xs body j d hwf hs
  | purge => exact hI.purge s hwf hs
  | update c k exp steps => exact opUpdate_induction c k (fun s e cas v => opWriteCas_inv hI s c k e cas v {}) _ s _ _ _ _ hs
  | wuwx c k names steps sets dels m cbExp pe =>
    exact opWuwx_induction c k (fun s => opWriteTombstoneWithXattrs_inv hI s c k) (fun s => opWriteResurrectionWithXattrs_inv hI s c k)
      (fun s => opWriteWithXattrs_inv hI s c k) _ s _ _ _ _ _ _ _ _ _ _ hs
  | startFeed id c bf dump ko pfx => exact opStartFeed_inv hI s id c bf dump ko pfx hs
  | stopFeed id => exact opStopFeed_inv hI s id hs
  | drain id => exact opDrain_inv hI s id hs
  | fire => exact hI.fire s hs
  | rb c k names => exact hs
  | lastCas c => exact hs
  | keys c => exact hs
  | expState => exact hs
  | draw => exact hI.draw s hs
  | restart p => exact hI.restart s p hwf hs
  | wsd c k path cas v => exact opSubdocWrite_inv hI _ _ _ _ _ _ _ hs
  | sdi c k path cas v => exact opSubdocWrite_inv hI _ _ _ _ _ _ _ hs
  | gsd c k path => exact hs

/-- Every state reachable from a state satisfying the invariant satisfies it: induction over any operation list. -/
theorem run_inv (ops : List Op) : ∀ (s : State), (∀ op ∈ ops, W op) → I s → I (run s ops).1 := by
  induction ops with
  | nil => intro s _ hs; exact hs
  | cons op tl ih =>
    intro s hwf hs
    simp only [run]
    exact ih _ (fun o ho => hwf o (List.mem_cons_of_mem _ ho)) (step_inv hI s op (hwf op (List.mem_cons_self)) hs)

end

theorem foldl_inv {α : Type} {I : State → Prop} {g : State → α → State} (hg : ∀ st x, I st → I (g st x)) (l : List α) :
    ∀ st, I st → I (l.foldl g st) := by
  induction l with
  | nil => exact fun _ h => h
  | cons x tl ih => exact fun st h => ih _ (hg st x h)

/-- The expiry sweep is a sequence of `Delete` transactions between two changes of the timer state: an invariant
    that does not look at the timer state is preserved by it. -/
theorem fire_of_txn {I : State → Prop} (hdel : ∀ k s c, I s → I (withNewCas s c (liftRow k (removeRow k none))).1)
    (hexp : ∀ s e, I s → I { s with expNext := e }) (s : State) (hs : I s) : I (opFireExpiry s) := by
  unfold opFireExpiry
  simp only
  generalize hfold : List.foldl _ _ _ = s1
  have h1 : I s1 := by
    rw [← hfold]
    refine foldl_inv (fun st p h => ?_) _ _ (hexp s 0 hs)
    split
    · exact h
    · exact foldl_inv (fun st' k h' => hdel k st' p.1 h') _ _ h
  split
  · exact hexp _ _ h1
  · exact h1

/-! ### Row invariants -/

/-- A row-level write establishes `P` for the row it stores, given `P` of the row it read. -/
def RowFn.Establishes (P : Row → Prop) (f : RowFn) : Prop :=
  ∀ nc now old r' ev o, (∀ r, old = some r → P r) → f nc now old = .inr (some r', ev, o) → ∀ n, P { r' with rowid := n }

/-- A unary row invariant: every row-level write function establishes it for the row it stores. -/
structure RowInvariant (P : Row → Prop) : Prop where
  fam : Family (fun _ f => f.Establishes P)
  wmeta : ∀ k old new exp xs body j d, d = body.isNone → (wmetaRow k old new exp xs body j d).Establishes P

theorem liftRow_docsAll {P : Row → Prop} {f : RowFn} (hf : f.Establishes P) {k : String} {nc now nid : Nat} {docs docs' : Docs}
    {nid' : Nat} {ev : Option Event} {o : Out} (hd : DocsAll P docs)
    (h : liftRow k f nc now nid docs = .inr (docs', nid', ev, o)) : DocsAll P docs' := by
  rcases liftRow_inr h with ⟨_, rfl⟩ | ⟨r', hfr, rfl⟩
  · exact hd
  · exact hd.put k _ (hf nc now _ r' ev o (fun _ hr => hd.get hr) hfr _)

theorem withNewCas_stateAll {P : Row → Prop} {f : RowFn} (hf : f.Establishes P) (k : String) (s : State) (c : String)
    (hs : StateAll P s) : StateAll P (withNewCas s c (liftRow k f)).1 :=
  withNewCas_cases (motive := fun r => StateAll P r.1) s c _ (fun _ => hs) (fun _ _ _ _ => hs)
    fun _ _ _ _ _ hx h => .of_colls_eq (postPending_colls ..) (.setColl (.of_colls_eq rfl hs) c _ (liftRow_docsAll hf (hs.coll hx) h))

/-- A row invariant is a step invariant. -/
theorem RowInvariant.step {P : Row → Prop} (hP : RowInvariant P) : StepInvariant Op.WF (StateAll P) where
  txn := hP.fam.toTxn.mapInv fun k _ hf => withNewCas_stateAll hf k
  touchOp := fun s c k exp hs => by
    rw [opTouch, armOnSuccess_eq]
    exact .of_colls_eq rfl (withNewCas_stateAll (hP.fam.touch k exp) k s c hs)
  wmeta := fun s c k old new exp xs body j d hwf hs =>
    opWriteWithMeta_cases (motive := fun r => StateAll P r.1) s c k old new exp xs body j d (fun _ => hs) (fun _ => hs)
      fun _ _ _ _ _ hx h => .of_colls_eq (postPending_colls ..)
        (.setColl (.of_colls_eq rfl hs) c _ (liftRow_docsAll (hP.wmeta k old new exp xs body j d hwf) (hs.coll hx) h))
  purge := fun s _ hs p hp => by
    obtain ⟨q, hq, rfl⟩ := List.mem_map.mp hp
    exact (hs q hq).filter _
  draw := fun _ hs => .of_colls_eq rfl hs
  restart := fun _ _ _ hs => .of_colls_eq rfl hs
  arm := fun _ _ hs => .of_colls_eq rfl hs
  fire := fun s hs => fire_of_txn (fun k s c hs => withNewCas_stateAll (hP.fam.remove k none) k s c hs)
    (fun _ _ hs => .of_colls_eq rfl hs) s hs
  clock := fun _ _ hs => .of_colls_eq rfl hs
  now := fun _ _ hs => .of_colls_eq rfl hs
  feeds := fun _ _ hs => .of_colls_eq rfl hs

theorem initState_stateAll (P : Row → Prop) : StateAll P initState := fun p hp d hd => by
  rw [(initState_colls hp).1] at hd; cases hd

end Rosmar
