import Rosmar.Shutdown

/-! Lock ordering: if every acquisition goes up a ranking, no set of threads is deadlocked. -/

namespace Rosmar.Shutdown

variable {L : Type}

/-- A thread respects a ranking when the lock it waits for ranks above every lock it holds. -/
def Respects (rank : L → Nat) (t : Thread L) : Prop :=
  ∀ l, t.waits = some l → ∀ h ∈ t.held, rank h < rank l

def waitRank (rank : L → Nat) (t : Thread L) : Nat :=
  match t.waits with
  | some l => rank l
  | none => 0

theorem exists_max_of_ne_nil {α : Type} (f : α → Nat) (l : List α) (hne : l ≠ []) : ∃ a ∈ l, ∀ b ∈ l, f b ≤ f a := by
  induction l with
  | nil => exact absurd rfl hne
  | cons a l ih =>
    by_cases hl : l = []
    · subst hl
      exact ⟨a, List.mem_singleton_self a, fun b hb => Nat.le_of_eq (congrArg f (List.mem_singleton.mp hb))⟩
    · obtain ⟨m, hm, hmax⟩ := ih hl
      by_cases h : f m ≤ f a
      · exact ⟨a, List.mem_cons_self, List.forall_mem_cons.mpr ⟨Nat.le_refl _, fun c hc => Nat.le_trans (hmax c hc) h⟩⟩
      · exact ⟨m, List.mem_cons_of_mem a hm, List.forall_mem_cons.mpr ⟨Nat.le_of_not_le h, hmax⟩⟩

theorem no_deadlock (rank : L → Nat) (ts : List (Thread L)) (hr : ∀ t ∈ ts, Respects rank t) : ¬ Deadlocked ts := by
  rintro ⟨hne, hd⟩
  -- take the member whose awaited lock ranks highest: the holder of that lock awaits one that ranks higher still
  obtain ⟨t, ht, hmax⟩ := exists_max_of_ne_nil (waitRank rank) ts hne
  obtain ⟨l, hw, t', ht', hl⟩ := hd t ht
  obtain ⟨l', hw', _⟩ := hd t' ht'
  have h : rank l' ≤ rank l := by simpa only [waitRank, hw, hw'] using hmax t' ht'
  exact Nat.not_lt.mpr h (hr t' ht' l' hw' l hl)

/-- With the acquisitions a thread can perform given as a list of `(held, acquired)` edges: a ranking that rises along every
edge rules out deadlock among threads whose (held, waited-for) pairs are all edges. -/
theorem ranked_edges_no_deadlock (edges : List (L × L)) (rank : L → Nat)
    (hrank : ∀ e ∈ edges, rank e.1 < rank e.2) (ts : List (Thread L))
    (hts : ∀ t ∈ ts, ∀ l, t.waits = some l → ∀ h ∈ t.held, (h, l) ∈ edges) : ¬ Deadlocked ts :=
  no_deadlock rank ts (fun t ht l hw h hh => hrank (h, l) (hts t ht l hw h hh))

theorem deadlockedB_iff (ts : List (Thread String)) : deadlockedB ts = true ↔ Deadlocked ts := by
  unfold deadlockedB Deadlocked
  simp only [Bool.and_eq_true, Bool.not_eq_true', List.isEmpty_eq_false_iff, List.all_eq_true, ne_eq]
  refine and_congr_right fun _ => forall₂_congr fun t _ => ?_
  cases t.waits with
  | none => simp
  | some l => simp only [List.any_eq_true, List.contains_eq_mem, decide_eq_true_eq, Option.some.injEq, exists_eq_left']

end Rosmar.Shutdown
