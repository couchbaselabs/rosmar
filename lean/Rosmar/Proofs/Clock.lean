/-
  The hybrid logical clock and the CAS high-water marks (C04).
-/
import Rosmar.Proofs.Invariant
namespace Rosmar

theorem hlcNow_gt (h p : Nat) : hlcNow h p > h := by
  unfold hlcNow; simp only; split <;> omega

theorem hlcNow_ge_phys (h p : Nat) : hlcNow h p ≥ p - p % 65536 := by
  unfold hlcNow; simp only; split <;> omega

/-- The committed-CAS log is strictly decreasing (newest first), bounded by the persisted high-water mark, which is
    bounded by the clock; every collection's own mark is bounded by the bucket's. -/
def ClockInv (s : State) : Prop :=
  s.acked.Pairwise (· > ·) ∧ (∀ x ∈ s.acked, x ≤ s.lastCas) ∧ s.lastCas ≤ s.hlc ∧ (∀ p ∈ s.colls, p.2.lastCas ≤ s.lastCas)

/-- Nothing but the log, the two marks, the clock (which may only advance) and the collections' marks matters. -/
theorem ClockInv.frame {s s' : State} (h : ClockInv s) (ha : s'.acked = s.acked) (hl : s'.lastCas = s.lastCas) (hh : s.hlc ≤ s'.hlc)
    (hc : ∀ p ∈ s'.colls, ∃ q ∈ s.colls, p.2.lastCas = q.2.lastCas) : ClockInv s' := by
  obtain ⟨h1, h2, h3, h4⟩ := h
  refine ⟨ha ▸ h1, fun x hx => hl ▸ h2 x (ha ▸ hx), by omega, fun p hp => ?_⟩
  obtain ⟨q, hq, e⟩ := hc p hp
  rw [hl, e]; exact h4 q hq

theorem ClockInv.frame_colls {s s' : State} (h : ClockInv s) (ha : s'.acked = s.acked) (hl : s'.lastCas = s.lastCas)
    (hh : s.hlc ≤ s'.hlc) (hc : s'.colls = s.colls) : ClockInv s' :=
  h.frame ha hl hh fun p hp => ⟨p, hc ▸ hp, rfl⟩

theorem withNewCas_clockInv (s : State) (c : String) (fn : TxnFn) (h : ClockInv s) : ClockInv (withNewCas s c fn).1 := by
  have hgt := hlcNow_gt s.hlc s.phys
  refine withNewCas_cases (motive := fun r => ClockInv r.1) s c fn (fun _ => h)
    (fun _ _ _ _ => h.frame_colls rfl rfl (Nat.le_of_lt hgt) rfl) fun x docs' nid ev out _ _ => ?_
  obtain ⟨h1, h2, h3, h4⟩ := h
  -- the CAS just drawn is above the clock, hence above every mark and everything in the log
  refine ClockInv.frame_colls (s := commit s c x (hlcNow s.hlc s.phys) nid docs')
    ⟨List.pairwise_cons.mpr ⟨fun a ha => by have := h2 a ha; omega, h1⟩, ?_, Nat.le_refl _, fun p hp => ?_⟩
    (by simp) (by simp) (by simp) (by simp)
  · intro y hy
    rcases List.mem_cons.mp hy with rfl | hy
    · exact Nat.le_refl _
    · have := h2 y hy; exact Nat.le_trans this (by show s.lastCas ≤ hlcNow s.hlc s.phys; omega)
  · rcases State.mem_setColl hp with hq | ⟨_, hq⟩
    · have := h4 p hq; show p.2.lastCas ≤ hlcNow s.hlc s.phys; omega
    · rw [hq]; exact Nat.le_refl _

theorem reopen_clockInv (s : State) (p : Nat) (h : ClockInv s) : ClockInv (reopen s p) := by
  obtain ⟨h1, h2, _, h4⟩ := h
  refine ⟨h1, h2, ?_, h4⟩
  simp only [reopen, hlcUpdate]
  split <;> omega

theorem opPurge_clockInv (s : State) (h : ClockInv s) : ClockInv (opPurge s).1 :=
  h.frame rfl rfl (Nat.le_refl _) fun p hp => by
    obtain ⟨q, hq, rfl⟩ := List.mem_map.mp hp
    exact ⟨q, hq, rfl⟩

theorem clockInv_step : StepInvariant (fun _ => True) ClockInv where
  txn := TxnFamily.of_all fun _ _ s c h => withNewCas_clockInv s c _ h
  touchOp := fun s c k exp h => by
    rw [opTouch, armOnSuccess_eq]
    exact (withNewCas_clockInv s c (touchFn k exp) h).frame_colls rfl rfl (Nat.le_refl _) rfl
  wmeta := fun s c k old new exp xs body j d _ h =>
    opWriteWithMeta_cases (motive := fun r => ClockInv r.1) s c k old new exp xs body j d (fun _ => h) (fun _ => h)
      fun x docs' nid ev out hx _ => h.frame (by simp [State.setColl]) (by simp [State.setColl]) (by simp [State.setColl]) fun p hp => by
        rw [postPending_colls] at hp
        rcases State.mem_setColl hp with hq | ⟨_, hq⟩
        · exact ⟨p, hq, rfl⟩
        · exact (State.coll?_mem hx).imp fun q hq' => ⟨hq'.1, by rw [hq, hq'.2]⟩
  draw := fun s h => h.frame_colls rfl rfl (Nat.le_of_lt (hlcNow_gt _ _)) rfl
  restart := fun s p _ h => reopen_clockInv s p h
  purge := fun s _ h => opPurge_clockInv s h
  arm := fun _ _ h => h.frame_colls rfl rfl (Nat.le_refl _) rfl
  fire := fun s h => fire_of_txn (fun k s c h => withNewCas_clockInv s c _ h)
    (fun _ _ h => h.frame_colls rfl rfl (Nat.le_refl _) rfl) s h
  clock := fun _ _ h => h.frame_colls rfl rfl (Nat.le_refl _) rfl
  now := fun _ _ h => h.frame_colls rfl rfl (Nat.le_refl _) rfl
  feeds := fun _ _ h => h.frame_colls rfl rfl (Nat.le_refl _) rfl

theorem initState_clockInv : ClockInv initState := by
  refine ⟨.nil, fun _ h => (nomatch h), Nat.le_refl _, fun p hp => ?_⟩
  rw [(initState_colls hp).2]; exact Nat.le_refl _

end Rosmar
