/-
  The JSON object algebra behind sub-document writes (C18): get/set/erase on field lists, and the path operations.
-/
import Rosmar.Proofs.Invariant
namespace Rosmar

namespace Fields

theorem get?_set : ∀ (fs : Fields) (k k' : String) (v : J), (fs.set k v).get? k' = if k = k' then some v else fs.get? k'
  | .nil, _, _, _ => rfl
  | .cons k0 v0 rest, k, k', v => by
    have ih := get?_set rest k k' v
    by_cases h : k0 = k <;> by_cases h' : k = k' <;> simp_all [set, get?]

theorem get?_erase : ∀ (fs : Fields) (k k' : String), (fs.erase k).get? k' = if k = k' then none else fs.get? k'
  | .nil, _, _ => by simp [erase, get?]
  | .cons k0 v0 rest, k, k' => by
    have ih := get?_erase rest k k'
    by_cases h : k0 = k <;> by_cases h' : k = k' <;> simp_all [erase, get?]

end Fields

/-- A top-level property of a document (`none` for a non-object). -/
def topGet : J → String → Option J
  | .obj fs, k => fs.get? k
  | .atom _, _ => none

/-- What a successful `upsertAt` did: the document is an object, and the field named by the head of the path was either
    erased (last segment, no value) or set, to the value given (last segment) or to the edited child. -/
theorem upsertAt_inr {d d' : J} {p : String} {rest : List String} {v : Option J} (h : upsertAt d (p :: rest) v = .inr d') :
    ∃ fs, d = .obj fs ∧
      ((rest = [] ∧ v = none ∧ d' = .obj (fs.erase p)) ∨
       ∃ c', d' = .obj (fs.set p c') ∧
         ((rest = [] ∧ v = some c') ∨
          ∃ c, fs.get? p = some c ∧ c.isNullAtom = false ∧ upsertAt c rest v = .inr c')) := by
  cases d with
  | atom s => cases rest <;> simp [upsertAt] at h
  | obj fs =>
    refine ⟨fs, rfl, ?_⟩
    cases rest with
    | nil =>
      cases v with
      | none =>
        rw [upsertAt, Sum.inr.injEq] at h
        exact .inl ⟨rfl, rfl, h.symm⟩
      | some x =>
        rw [upsertAt, Sum.inr.injEq] at h
        exact .inr ⟨x, h.symm, .inl ⟨rfl, rfl⟩⟩
    | cons q rs =>
      rw [upsertAt] at h
      split at h
      · cases h
      next c hc =>
        split at h
        · cases h
        next hn =>
          split at h
          · cases h
          next c' hrec =>
            cases h
            exact .inr ⟨c', rfl, .inr ⟨c, hc, Bool.eq_false_iff.mpr hn, hrec⟩⟩

/-- **Every other top-level property is preserved** by a sub-document set or remove at any depth. -/
theorem upsertAt_top_frame (path : List String) (d d' : J) (v : Option J) (h : upsertAt d path v = .inr d')
    (q : String) (hq : path.head? ≠ some q) : topGet d' q = topGet d q := by
  cases path with
  | nil => simp [upsertAt] at h
  | cons p rest =>
    have hpq : p ≠ q := fun e => hq (by simp [e])
    obtain ⟨fs, rfl, ⟨_, _, rfl⟩ | ⟨c', rfl, _⟩⟩ := upsertAt_inr h
    · simp [topGet, Fields.get?_erase, hpq]
    · simp [topGet, Fields.get?_set, hpq]

/-- **Reading back what was written**: after a set or remove at a path, the path evaluates to the value set, and no
    longer resolves after a remove (or after setting a JSON null, which reads as absent). -/
theorem eval_after_upsert (path : List String) : ∀ (d d' : J) (v : Option J), upsertAt d path v = .inr d' →
    d'.isNullAtom = false ∧
    evalSubdocPath d' path = match v with
      | some x => if x.isNullAtom then .inl .pathNotFound else .inr x
      | none => .inl .pathNotFound := by
  induction path with
  | nil => intro d d' v h; simp [upsertAt] at h
  | cons p rest ih =>
    intro d d' v h
    obtain ⟨fs, rfl, ⟨rfl, rfl, rfl⟩ | ⟨c', rfl, ⟨rfl, rfl⟩ | ⟨c, _, _, hrec⟩⟩⟩ := upsertAt_inr h
    · exact ⟨rfl, by simp [evalSubdocPath, Fields.get?_erase]⟩
    · exact ⟨rfl, by simp [evalSubdocPath, Fields.get?_set]⟩
    · obtain ⟨hn, he⟩ := ih c c' v hrec
      exact ⟨rfl, by simp [evalSubdocPath, Fields.get?_set, hn, he]⟩

theorem upsertAt_of_subdocEdit {d d' : J} {path : List String} {v : Option J} {insert : Bool}
    (h : subdocEdit d path v insert = .inr d') : upsertAt d path v = .inr d' := by
  unfold subdocEdit at h
  split at h
  · cases h
  · cases h
  · split at h
    · cases h
    · exact h

end Rosmar
