/-
  Feed bookkeeping: what `withNewCas` does to the feeds, and properties of the backfill query (C08, C09).
-/
import Rosmar.Proofs.Clock
namespace Rosmar

/-- The feeds after a single transaction: every live feed of the collection gets the posted event appended, once;
    nothing else changes; without an event nothing changes at all. -/
theorem withNewCas_feeds (s : State) (c : String) (fn : TxnFn) :
    (withNewCas s c fn).1.feeds =
      match s.coll? c with
      | none => s.feeds
      | some x =>
        match fn (hlcNow s.hlc s.phys) s.now s.nextRowId x.docs with
        | .inr (_, _, some e, _) =>
          s.feeds.map (fun f => if f.coll = c ∧ ¬ f.dump ∧ ¬ f.stopped then { f with pending := f.pending ++ [.ev e x.id f.keysOnly] } else f)
        | _ => s.feeds := by
  refine withNewCas_cases (motive := fun r => r.1.feeds = _) s c fn (fun h => by rw [h]) (fun x _ hx hfn => by simp only [hx, hfn])
    fun x docs' nid ev out hx hfn => ?_
  simp only [hx, hfn]
  cases ev <;> rfl

/-! ### sorting by CAS -/

theorem insertByCas_perm : (∀ x l, (insertByCas x l).Perm (x :: l)) ∧ ∀ l, (sortByCas l).Perm l :=
  foldr_insert_perm (ins := insertByCas) (fun _ => rfl) fun x y ys => by simp only [insertByCas]; split <;> simp

theorem insertByCas_sorted (x : String × Row) (l : List (String × Row)) (h : l.Pairwise (fun a b => a.2.cas ≤ b.2.cas)) :
    (insertByCas x l).Pairwise (fun a b => a.2.cas ≤ b.2.cas) := by
  induction l with
  | nil => exact List.pairwise_singleton _ _
  | cons y ys ih =>
    obtain ⟨hy, hys⟩ := List.pairwise_cons.mp h
    unfold insertByCas
    split
    · -- in front: `x` is below `y`, which is below the rest
      refine List.pairwise_cons.mpr ⟨fun a ha => ?_, h⟩
      rcases List.mem_cons.mp ha with rfl | ha
      · omega
      · have := hy a ha; omega
    · -- behind `y`: what follows `y` now is `x` or followed it before
      refine List.pairwise_cons.mpr ⟨fun a ha => ?_, ih hys⟩
      rcases List.mem_cons.mp ((insertByCas_perm.1 x ys).mem_iff.mp ha) with rfl | ha
      · omega
      · exact hy a ha

theorem sortByCas_sorted (l : List (String × Row)) : (sortByCas l).Pairwise (fun a b => a.2.cas ≤ b.2.cas) := by
  induction l with
  | nil => exact .nil
  | cons x xs ih => exact insertByCas_sorted x _ ih

theorem mem_backfillRows (docs : Docs) (start : Nat) (p : String × Row) :
    p ∈ backfillRows docs start ↔ p ∈ docs ∧ p.2.cas ≥ start := by
  unfold backfillRows
  rw [(insertByCas_perm.2 _).mem_iff, List.mem_filter]
  simp

end Rosmar
