/-
  The xattr map algebra, and that `applyEdits` leaves every xattr it does not name alone (C07).
-/
import Rosmar.Proofs.RowSpecs
namespace Rosmar

namespace Xattrs

theorem get?_set (xs : Xattrs) (k k' v : String) : get? (set xs k v) k' = if k = k' then some v else get? xs k' := by
  induction xs with
  | nil => rfl
  | cons hd tl ih =>
    obtain ⟨k0, v0⟩ := hd
    unfold set
    split
    · rfl
    · split
      · subst k0; by_cases h' : k = k' <;> simp [get?, h']
      · rename_i hk
        rw [get?, ih, get?]
        by_cases h' : k = k'
        · subst k'; simp [Ne.symm hk]
        · simp [h']

theorem get?_erase (xs : Xattrs) (k k' : String) : get? (erase xs k) k' = if k = k' then none else get? xs k' := by
  induction xs with
  | nil => simp [erase, get?]
  | cons hd tl ih =>
    obtain ⟨k0, v0⟩ := hd
    by_cases h : k0 = k <;> by_cases h' : k = k' <;> simp_all [erase, get?]

theorem get?_set_same (xs : Xattrs) (k v : String) : get? (set xs k v) k = some v := by
  simp [get?_set]

theorem get?_erase_same (xs : Xattrs) (k : String) : get? (erase xs k) k = none := by
  simp [get?_erase]

end Xattrs

/-- A fold over `ε ⊕ α` whose step passes an error on can only end in a value if it started from one and never left the
    values; so what every such step preserves carries over from the start to the result. -/
theorem foldl_inr_inv {ε α β : Type} {f : ε ⊕ α → β → ε ⊕ α} (hf : ∀ e b, f (.inl e) b = .inl e) {P : α → Prop} {r : α} :
    ∀ (l : List β) (acc : ε ⊕ α), (∀ b ∈ l, ∀ a a', f (.inr a) b = .inr a' → P a → P a') → l.foldl f acc = .inr r →
      ∃ a, acc = .inr a ∧ (P a → P r)
  | [], _, _, h => ⟨r, h, id⟩
  | b :: l, acc, hstep, h => by
    obtain ⟨a', ha', hr⟩ := foldl_inr_inv hf l (f acc b) (fun b hb => hstep b (List.mem_cons_of_mem _ hb)) h
    cases acc with
    | inl e => rw [hf] at ha'; cases ha'
    | inr a => exact ⟨a, rfl, fun ha => hr (hstep b List.mem_cons_self a a' ha' ha)⟩

/-- **Frame**: an xattr the call does not name is left byte-for-byte intact. -/
theorem applyEdits_frame (edits : List XEdit) (m : Macros) (nc : Nat) (body : Option String) (xs res : Xattrs)
    (h : applyEdits xs edits m nc body = .inr res) (n : String) (hn : ∀ e ∈ edits, e.1 ≠ n) :
    Xattrs.get? res n = Xattrs.get? xs n := by
  have ⟨_, hxs, hres⟩ := foldl_inr_inv (P := fun ys => Xattrs.get? ys n = Xattrs.get? xs n) (fun _ _ => rfl) edits _ ?_ h
  · cases hxs; exact hres rfl
  · intro e he ys ys' hstep hys
    simp only at hstep
    split at hstep
    · split at hstep
      · cases hstep
      · split at hstep
        · cases hstep
        · cases hstep; simpa [Xattrs.get?_set, hn e he] using hys
    · split at hstep
      · cases hstep; simpa [Xattrs.get?_erase, hn e he] using hys
      · cases hstep

end Rosmar
