/-
  The expiry manager's invariant (C14): whenever some stored document has an expiry, the timer is armed
  for a time no later than the earliest of them.
-/
import Rosmar.Proofs.Shape
namespace Rosmar

/-- The timer covers expiry `e`: it is armed, for `e` or earlier. -/
def Covers (next e : Nat) : Prop := e > 0 → next ≠ 0 ∧ next ≤ e

def ExpInv (s : State) : Prop := ∀ p ∈ s.colls, ∀ d ∈ p.2.docs, Covers s.expNext d.2.exp

theorem Covers.refl (a : Nat) : Covers a a := fun h => ⟨by omega, Nat.le_refl _⟩

theorem Covers.trans {a b c : Nat} (h : Covers c b) (h' : Covers b a) : Covers c a := fun ha => by
  have := h' ha; have := h (by omega); omega

theorem covers_sched_self (n e : Nat) : Covers (schedAtOrBefore n e) e := by
  intro he
  unfold schedAtOrBefore
  split
  · omega
  · split <;> omega

theorem covers_sched (n e x : Nat) (h : Covers n x) : Covers (schedAtOrBefore n e) x := fun hx => by
  have := h hx
  unfold schedAtOrBefore
  split
  · exact this
  · split <;> omega

/-- A row function arms the timer for what it stores: the row has no expiry, or the event it posts carries it. -/
def EvArms (_k : String) (f : RowFn) : Prop :=
  ∀ nc now old r' ev o, f nc now old = .inr (some r', ev, o) → r'.exp = 0 ∨ ∃ e, ev = some e ∧ e.exp = r'.exp

theorem evArms_txn : TxnFamily EvArms :=
  spec_txn.mapInv fun _ _ h _ _ _ _ _ _ hf => .inr ⟨_, (h.wrote hf).2.2.1, rfl⟩

@[simp] theorem postPending_expNext (s : State) (c : String) (p : Option (Nat × Event)) :
    (postPending s c p).expNext = (p.map fun q => schedAtOrBefore s.expNext q.2.exp).getD s.expNext := by
  cases p <;> rfl

/-- The invariant after a single-row transaction, whichever wrapper ran it: collection `c` has a new table whose rows are old
rows or covered by the new timer value, the other collections are as they were, and the timer only moved towards earlier. -/
theorem ExpInv.write {s s' : State} {c : String} {x x' : Coll} (hs : ExpInv s) (hx : s.coll? c = some x)
    (hcolls : ∀ p ∈ s'.colls, p ∈ s.colls ∨ p.2 = x') (hmono : ∀ e, Covers s.expNext e → Covers s'.expNext e)
    (hdocs : ∀ d ∈ x'.docs, d ∈ x.docs ∨ Covers s'.expNext d.2.exp) : ExpInv s' := by
  intro p hp d hd
  obtain ⟨q, hq, rfl⟩ := State.coll?_mem hx
  rcases hcolls p hp with h | rfl
  · exact hmono _ (hs p h d hd)
  · exact (hdocs d hd).elim (fun h => hmono _ (hs q hq d h)) id

/-- The rows of the table `liftRow` returns are old rows, or the row just stored. -/
theorem liftRow_mem {k : String} {f : RowFn} {nc now nid : Nat} {docs docs' : Docs} {nid' : Nat} {ev : Option Event} {o : Out}
    (h : liftRow k f nc now nid docs = .inr (docs', nid', ev, o)) {d : String × Row} (hd : d ∈ docs') :
    d ∈ docs ∨ ∃ r', f nc now (docs.get? k) = .inr (some r', ev, o) ∧ d.2.exp = r'.exp := by
  rcases liftRow_inr h with ⟨_, rfl⟩ | ⟨r', hf, rfl⟩
  · exact .inl hd
  · exact (Docs.mem_put hd).symm.imp_right fun e => ⟨r', hf, by rw [e]; rfl⟩

/-- A committed single-row transaction whose event carries the expiry of the row it stores keeps the invariant, whichever wrapper
(`withNewCas`, a WithMeta write) committed it as `s0.setColl c x'`. -/
theorem ExpInv.commit {s s0 : State} {c k : String} {x x' : Coll} {f : RowFn} {nc now nid nid' : Nat} {ev : Option Event} {out : Out}
    (hs : ExpInv s) (hx : s.coll? c = some x) (h0 : s0.colls = s.colls) (he : s0.expNext = s.expNext)
    (hfn : liftRow k f nc now nid x.docs = .inr (x'.docs, nid', ev, out))
    (harm : ∀ r', f nc now (x.docs.get? k) = .inr (some r', ev, out) → r'.exp = 0 ∨ ∃ e, ev = some e ∧ e.exp = r'.exp) :
    ExpInv (postPending (s0.setColl c x') c (ev.map (x.id, ·))) := by
  refine hs.write hx (x' := x') (fun p hp => ?_) (fun e h => ?_) fun d hd => ?_
  · rw [postPending_colls] at hp
    exact (State.mem_setColl hp).imp (fun h => h0 ▸ h) (·.2)
  · rw [postPending_expNext, show (s0.setColl c x').expNext = s.expNext from he]
    cases ev
    · exact h
    · exact covers_sched _ _ _ h
  · refine (liftRow_mem hfn hd).imp_right fun ⟨r', hfr, hd⟩ => ?_
    rw [postPending_expNext, show (s0.setColl c x').expNext = s.expNext from he, hd]
    rcases harm r' hfr with h0 | ⟨e, rfl, hexp⟩
    · exact fun hpos => by omega
    · rw [← hexp]; exact covers_sched_self _ _

theorem withNewCas_expInv (s : State) (c k : String) (f : RowFn) (hf : EvArms k f) (hs : ExpInv s) :
    ExpInv (withNewCas s c (liftRow k f)).1 :=
  withNewCas_cases (motive := fun r => ExpInv r.1) s c _ (fun _ => hs) (fun _ _ _ _ => hs) fun x docs' _ _ _ hx hfn =>
    hs.commit hx (x' := { x with docs := docs', lastCas := hlcNow s.hlc s.phys }) rfl rfl hfn fun _ => hf _ _ _ _ _ _

theorem opWriteWithMeta_expInv (s : State) (c k : String) (old new exp : Nat) (xs : Xattrs) (body : Option String) (j d : Bool)
    (hs : ExpInv s) : ExpInv (opWriteWithMeta s c k old new exp xs body j d).1 :=
  opWriteWithMeta_cases (motive := fun r => ExpInv r.1) s c k old new exp xs body j d (fun _ => hs) (fun _ => hs)
    fun x docs' _ _ _ hx hfn => hs.commit hx (x' := { x with docs := docs' }) rfl rfl hfn fun _ hfr => by
      obtain ⟨_, rfl, rfl⟩ := wmetaRow_inr hfr
      exact .inr ⟨_, rfl, rfl⟩

/-- `Touch`: the transaction stores the new expiry without an event; arming the timer right after restores the invariant. -/
theorem opTouch_expInv (s : State) (c k : String) (exp : Nat) (hs : ExpInv s) : ExpInv (opTouch s c k exp).1 := by
  unfold opTouch touchFn
  rw [armOnSuccess_eq]
  have harm : ∀ (b : Prop) [Decidable b] {s' : State}, ExpInv s' →
      ExpInv { s' with expNext := if b then schedAtOrBefore s'.expNext (absExp s.now exp) else s'.expNext } := by
    intro b _ s' h p hp d hd
    split
    · exact covers_sched _ _ _ (h p hp d hd)
    · exact h p hp d hd
  refine withNewCas_cases (motive := fun r => ExpInv { r.1 with
      expNext := if r.2.err = .ok then schedAtOrBefore r.1.expNext (absExp s.now exp) else r.1.expNext }) s c _
    (fun _ => harm _ hs) (fun _ _ _ _ => harm _ hs) fun x docs' nid ev out hx hfn => ?_
  rcases liftRow_inr hfn with ⟨_, rfl⟩ | ⟨r', hfr, rfl⟩
  · exact harm _ (hs.write hx (x' := { x with lastCas := hlcNow s.hlc s.phys })
      (fun p hp => (State.mem_setColl (postPending_colls .. ▸ hp)).imp_right (·.2))
      (fun e h => by cases ev; exact h; exact covers_sched _ _ _ h) fun d hd => .inl hd)
  · obtain ⟨r, _, _, _, rfl, rfl, rfl⟩ := touchRow_inr hfr
    refine hs.write hx (x' := { x with docs := _, lastCas := hlcNow s.hlc s.phys })
      (fun p hp => (State.mem_setColl hp).imp_right (·.2)) (fun e h => covers_sched _ _ _ h) fun d hd => ?_
    exact (Docs.mem_put hd).symm.imp_right fun e => by rw [e]; exact covers_sched_self _ _

/-! ### `min(exp)` over the whole store -/

def minStep (a : Nat) (d : String × Row) : Nat := if d.2.exp > 0 ∧ (a = 0 ∨ d.2.exp < a) then d.2.exp else a

/-- A fold whose every step moves the timer value towards earlier ends at a value that covers where it started and whatever
each step covers. -/
theorem foldl_covers {α : Type} {g : Nat → α → Nat} (hg : ∀ a x, Covers (g a x) a) {T : α → Nat → Prop}
    (hmono : ∀ x n n', Covers n' n → T x n → T x n') (hT : ∀ a x, T x (g a x)) (l : List α) :
    ∀ a, Covers (l.foldl g a) a ∧ ∀ x ∈ l, T x (l.foldl g a) := by
  induction l with
  | nil => exact fun a => ⟨.refl a, fun _ h => nomatch h⟩
  | cons x tl ih =>
    intro a
    obtain ⟨h1, h2⟩ := ih (g a x)
    refine ⟨h1.trans (hg a x), fun y hy => ?_⟩
    rcases List.mem_cons.mp hy with rfl | hy
    · exact hmono _ _ _ h1 (hT a _)
    · exact h2 y hy

theorem minStep_covers (a : Nat) (d : String × Row) : Covers (minStep a d) a ∧ Covers (minStep a d) d.2.exp := by
  unfold minStep Covers
  split <;> omega

theorem minExp_covers (s : State) : ∀ p ∈ s.colls, ∀ d ∈ p.2.docs, Covers (minExp s) d.2.exp :=
  have inner := fun (docs : Docs) => foldl_covers (g := minStep) (fun a d => (minStep_covers a d).1)
    (T := fun d n => Covers n d.2.exp) (fun _ _ _ h ht => h.trans ht) (fun a d => (minStep_covers a d).2) docs
  (foldl_covers (g := fun acc (p : String × Coll) => p.2.docs.foldl minStep acc) (fun a p => (inner p.2.docs a).1)
    (T := fun p n => ∀ d ∈ p.2.docs, Covers n d.2.exp) (fun _ _ _ h ht d hd => h.trans (ht d hd))
    (fun a p => (inner p.2.docs a).2) s.colls 0).2

/-- After the sweep the timer is re-armed from the earliest expiry left: the invariant holds whatever held before. -/
theorem opFireExpiry_expInv (s : State) : ExpInv (opFireExpiry s) := by
  unfold opFireExpiry
  simp only
  generalize (List.foldl _ _ _ : State) = s1
  split
  · exact fun p hp d hd => (covers_sched_self s1.expNext (minExp s1)).trans (minExp_covers s1 p hp d hd)
  · exact fun p hp d hd hpos => by have := (minExp_covers s1 p hp d hd hpos).1; omega

theorem reopen_expInv (s : State) (p : Nat) : ExpInv (reopen s p) := fun q hq d hd => minExp_covers s q hq d hd

theorem expInv_step : StepInvariant (fun _ => True) ExpInv where
  txn := evArms_txn.mapInv fun k f hf s c h => withNewCas_expInv s c k f hf h
  touchOp := fun s c k exp h => opTouch_expInv s c k exp h
  wmeta := fun s c k old new exp xs body j d _ h => opWriteWithMeta_expInv s c k old new exp xs body j d h
  draw := fun _ h => h
  restart := fun s p _ _ => reopen_expInv s p
  purge := fun s _ h p hp d hd => by
    obtain ⟨q, hq, rfl⟩ := List.mem_map.mp hp
    exact h q hq d (List.mem_filter.mp hd).1
  arm := fun _ _ h p hp d hd => covers_sched _ _ _ (h p hp d hd)
  fire := fun s _ => opFireExpiry_expInv s
  clock := fun _ _ h => h
  now := fun _ _ h => h
  feeds := fun _ _ h => h

theorem initState_expInv : ExpInv initState := fun p hp d hd => by
  rw [(initState_colls hp).1] at hd; cases hd

end Rosmar
