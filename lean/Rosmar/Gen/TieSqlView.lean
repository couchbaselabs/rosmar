import Rosmar.Gen.TieSqlBase
import Rosmar.View

/-! `updateView` deletes the index rows of documents with `cas > lastCas` and maps again those of them that have a body or xattrs. -/

namespace Rosmar.Gen.Sql
open Rosmar Rosmar.Sql

/-! ### View update: rows of documents with `cas > lastCas` are deleted; those with a body or xattrs are mapped again -/

theorem tie_viewupdate_delete_pred (cid : Nat) (k : String) (r : Row) (last : Nat) :
    sel_by_casGt_collection.selects (env [("$where.collection", .int cid), ("$where.cas", .int last)]) (enc cid k r)
      = decide (r.cas > last) := by
  simp [sel_by_casGt_collection, Select.selects, SRow.get, env, enc]

theorem tie_viewupdate_select_pred (cid : Nat) (k : String) (r : Row) (last : Nat) :
    sel_by_casGt_collection_or.selects (env [("$where.collection", .int cid), ("$where.cas", .int last)]) (enc cid k r)
      = (decide (r.cas > last) && !(decide (r.value.isNone ∧ r.xattrs = []))) := by
  cases hv : r.value <;> cases hx : r.xattrs <;> simp [sel_by_casGt_collection_or, Select.selects, SRow.get, env, enc, encV, encX, hv, hx]

/-- A row the view update does not map again (no body and no xattrs) has no map input in the model either. -/
theorem tie_view_mapinput (m : Nat) (k : String) (r : Row) (h : r.value.isNone ∧ r.xattrs = []) : View.mapRows m k r = [] := by
  unfold View.mapRows View.mapInput?
  simp [h]

end Rosmar.Gen.Sql
