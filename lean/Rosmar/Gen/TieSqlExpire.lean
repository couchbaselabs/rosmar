import Rosmar.Gen.TieSqlBase
import Rosmar.Feed

/-! The model's expiry sweep deletes exactly the keys the regenerated statement of `expireDocuments` selects (`exp > 0 AND exp <= now`); the next deadline ranges over `exp > 0`. -/

namespace Rosmar.Gen.Sql
open Rosmar Rosmar.Sql

/-! ### Expiry sweep: `exp > 0 AND exp <= now`; next deadline: `exp > 0` -/

theorem tie_expire_pred (cid : Nat) (k : String) (r : Row) (now : Nat) :
    sel_by_collection_expLe_expPos.selects (env [("$where.collection", .int cid), ("$where.exp", .int now)]) (enc cid k r)
      = decide (r.exp > 0 ∧ r.exp ≤ now) := by
  simp [sel_by_collection_expLe_expPos, Select.selects, SRow.get, env, enc]

theorem tie_dueKeys (cid : Nat) (docs : Docs) (now : Nat) :
    dueKeys docs now
      = ((docs.filter (fun d =>
          sel_by_collection_expLe_expPos.selects (env [("$where.collection", .int cid), ("$where.exp", .int now)]) (enc cid d.1 d.2))).foldr
            insertByExp []).map (·.1) := by
  unfold dueKeys
  congr 2
  apply List.filter_congr
  intro d _
  rw [tie_expire_pred]

theorem tie_nextexp_pred (cid : Nat) (k : String) (r : Row) :
    sel_by_expPos.selects (env []) (enc cid k r) = decide (r.exp > 0) := by
  simp [sel_by_expPos, Select.selects, SRow.get, enc]

end Rosmar.Gen.Sql
