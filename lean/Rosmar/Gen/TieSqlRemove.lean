import Rosmar.Gen.TieSqlBase

/-! `Remove` / `Delete` / `DeleteWithXattrs` against their regenerated UPDATE. -/

namespace Rosmar.Gen.Sql
open Rosmar Rosmar.Sql

/-- What the UPDATE shared by `remove` and `DeleteWithXattrs` does to any stored row, for any binding of the placeholders. -/
theorem upd_remove_exec (ps : Env) (r : SRow) :
    upd_cas_exp0_isJSON0_revSeqNo_tombstone1_valueN_xattrs__by_collection_key.exec ps (some r) =
      if r.collection.same (ps "c.id") && r.key.same (ps "key") then
        { row := some { r with cas := ps "$cas", exp := .int 0, isJSON := .int 0, revSeqNo := ps "$revSeqNo", tombstone := .int 1,
                               value := .null, xattrs := ps "$xattrs" }, affected := 1 }
      else { row := some r, affected := 0 } := by
  simp [upd_cas_exp0_isJSON0_revSeqNo_tombstone1_valueN_xattrs__by_collection_key, Update.exec_some, applySets, SRow.set, SRow.get]

/-! ### Remove / Delete -/

/-- The row `removeRow` writes is the UPDATE's row (the CAS test is done in Go, before the statement). -/
theorem tie_remove (cid : Nat) (k : String) (ifCas : Option Nat) (newCas now : Nat) (r : Row) :
    Writes (removeRow k ifCas newCas now (some r)) (fun r' _ =>
      upd_cas_exp0_isJSON0_revSeqNo_tombstone1_valueN_xattrs__by_collection_key.exec
        (env [("$cas", .int newCas), ("$xattrs", encX (Xattrs.systemOnly r.xattrs)), ("$revSeqNo", .int (r.rev + 1)),
              ("c.id", .int cid), ("key", .text k)]) (some (enc cid k r))
        = { row := some (enc cid k r'), affected := 1 }) := by
  unfold removeRow
  dsimp only
  split <;> simp [upd_remove_exec, env, enc, encV]

/-! ### DeleteWithXattrs -/

theorem tie_delx (cid : Nat) (k : String) (names : List String) (newCas now : Nat) (r : Row) :
    Writes (delxRow k names newCas now (some r)) (fun r' ev =>
      upd_cas_exp0_isJSON0_revSeqNo_tombstone1_valueN_xattrs__by_collection_key.exec
        (env [("$xattrs", encX r'.xattrs), ("$cas", .int newCas), ("$revSeqNo", .int (r.rev + 1)), ("c.id", .int cid), ("key", .text k)])
        (some (enc cid k r))
        = { row := some (enc cid k r'), affected := 1 }
      ∧ ev.map (·.xattrs) = some r'.xattrs ∧ ev.map (·.rev) = some (r.rev + 1)) := by
  unfold delxRow
  dsimp only
  cases removeXattrs r.xattrs names <;> simp [upd_remove_exec, env, enc, encV]

end Rosmar.Gen.Sql
