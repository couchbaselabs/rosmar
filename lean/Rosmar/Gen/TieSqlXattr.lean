import Rosmar.Gen.TieSqlBase

/-! `DeleteSubDocPaths`, and `storeDocument` (the upsert behind `writeWithXattrs` and `writeWithMeta`). -/

namespace Rosmar.Gen.Sql
open Rosmar Rosmar.Sql

theorem tie_dsp (cid : Nat) (k : String) (names : List String) (newCas now : Nat) (r : Row) :
    Writes (dspRow k names newCas now (some r)) (fun r' ev =>
      upd_cas_revSeqNo_xattrs__by_collection_key.exec
        (env [("$xattrs", encX r'.xattrs), ("$cas", .int newCas), ("$revSeqNo", .int (r.rev + 1)), ("c.id", .int cid), ("key", .text k)])
        (some (enc cid k r))
        = { row := some (enc cid k r'), affected := 1 }
      ∧ ev.map (·.xattrs) = some r'.xattrs ∧ ev.map (·.rev) = some (r.rev + 1)) := by
  unfold dspRow
  dsimp only
  cases hx : removeXattrs r.xattrs names
  · simp
  · simp [upd_cas_revSeqNo_xattrs__by_collection_key, Update.exec_some, applySets, SRow.set, SRow.get, env, enc, encV]

/-! ### `storeDocument`: the upsert behind `writeWithXattrs` and `writeWithMeta` -/

/-- The row an event describes (`storeDocument` stores the event, nothing of the old row survives but its id). -/
def rowOfEvent (ev : Event) : Row :=
  { rowid := 0, value := ev.value, cas := ev.cas, exp := ev.exp, isJSON := ev.isJSON, xattrs := ev.xattrs, tomb := ev.isDeletion, rev := ev.rev }

def evEnv (cid : Nat) (ev : Event) : Env :=
  env [("c.id", .int cid), ("e.key", .text ev.key), ("e.value", encV ev.value), ("e.isJSON", ofBool ev.isJSON), ("e.cas", .int ev.cas),
       ("e.exp", .int ev.exp), ("e.xattrs", encX ev.xattrs), ("$tombstone", ofBool ev.isDeletion), ("e.revSeqNo", .int ev.rev)]

theorem tie_storeDocument (cid : Nat) (ev : Event) (old : Option Row) :
    ups_cas_collection_exp_isJSON_key_revSeqNo_tombstone_value_xattrs__set_cas_exp_isJSON_revSeqNo_tombstone_value_xattrs__if_collection_key.exec (evEnv cid ev) (old.map (enc cid ev.key))
      = { row := some (enc cid ev.key (rowOfEvent ev)), affected := 1 } := by
  cases old <;>
    simp [ups_cas_collection_exp_isJSON_key_revSeqNo_tombstone_value_xattrs__set_cas_exp_isJSON_revSeqNo_tombstone_value_xattrs__if_collection_key, Upsert.exec, insertRow, applySets, SRow.set, SRow.get, env, evEnv, enc, rowOfEvent, defaultRow]

/-- The row function stores exactly the event it posts. -/
def storesEvent (k : String) : Row → Option Event → Prop := fun r' ev =>
  match ev with
  | some e => r' = rowOfEvent e ∧ e.key = k
  | none => False

/-- `writeWithMeta` stores exactly the event it posts. -/
theorem tie_wmeta (k : String) (oldCas newCas exp : Nat) (xattrs : Xattrs) (body : Option String) (isJSON isDeletion : Bool)
    (c n : Nat) (old : Option Row) :
    Writes (wmetaRow k oldCas newCas exp xattrs body isJSON isDeletion c n old) (storesEvent k) := by
  unfold wmetaRow
  dsimp only
  repeat' split
  all_goals simp [storesEvent, rowOfEvent]

/-- `writeWithXattrs` (every `*WithXattrs` / `SetXattrs` / `UpdateXattrs` / `RemoveXattrs` entry point) stores exactly the event it posts. -/
theorem tie_wwx (k : String) (val : ValArg) (edits : List XEdit) (ifCas : Option Nat) (exp : Option Nat) (o : XOpts)
    (macros : List (String × MacroKind)) (newCas now : Nat) (old : Option Row) :
    Writes (wwxRow k val edits ifCas exp o macros newCas now old) (storesEvent k) := by
  unfold wwxRow
  dsimp only
  repeat' split
  all_goals simp [storesEvent, rowOfEvent]

end Rosmar.Gen.Sql
