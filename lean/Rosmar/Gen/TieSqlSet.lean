import Rosmar.Gen.TieSqlBase

/-! `Set` / `SetRaw` / `Incr` against the regenerated statements of `Collection._set`. -/

namespace Rosmar.Gen.Sql
open Rosmar Rosmar.Sql

/-! ### Set / SetRaw / Incr (`_set`) -/

/-- What the UPDATE of `_set` does to any stored row, for any binding of the placeholders. -/
theorem upd_set_exec (ps : Env) (r : SRow) :
    upd_cas_exp_isJSON_revSeqNo_tombstone0_value_xattrs__by_collection_key.exec ps (some r) =
      if r.collection.same (ps "c.id") && r.key.same (ps "key") then
        { row := some { r with cas := ps "newCas", exp := ps "exp", isJSON := ps "isJSON", revSeqNo := ps "revSeqNo", tombstone := .int 0,
                               value := ps "val", xattrs := ps "xattrs" }, affected := 1 }
      else { row := some r, affected := 0 } := by
  simp [upd_cas_exp_isJSON_revSeqNo_tombstone0_value_xattrs__by_collection_key, Update.exec_some, applySets, SRow.set, SRow.get]

/-- `_set` on an existing row: the UPDATE, fed with what the preceding SELECT read (`xattrs` cleared when the row had no body,
`exp` replaced by the stored one under `PreserveExpiry`, `revSeqNo + 1`). -/
theorem tie_set_update (cid : Nat) (k val : String) (exp : Nat) (preserve isJSON : Bool) (newCas : Nat) (r : Row) :
    upd_cas_exp_isJSON_revSeqNo_tombstone0_value_xattrs__by_collection_key.exec
        (env [("c.id", .int cid), ("key", .text k), ("val", .text val),
              ("xattrs", encX (if r.value.isSome then r.xattrs else [])), ("newCas", .int newCas),
              ("exp", .int (if preserve then r.exp else exp)), ("isJSON", ofBool isJSON), ("revSeqNo", .int (r.rev + 1))])
        (some (enc cid k r))
      = { row := some (enc cid k (setCore (some r) exp preserve val isJSON newCas).1), affected := 1 } := by
  simp [upd_set_exec, setCore, env, enc, encV, apply_ite SV.int]

/-- `_set` on a missing key: the plain INSERT. -/
theorem tie_set_insert (cid : Nat) (k val : String) (exp : Nat) (preserve isJSON : Bool) (newCas : Nat) :
    ins_cas_collection_exp_isJSON_key_revSeqNo_value_xattrs.exec
        (env [("c.id", .int cid), ("key", .text k), ("val", .text val), ("xattrs", .null), ("newCas", .int newCas),
              ("exp", .int exp), ("isJSON", ofBool isJSON), ("revSeqNo", .int 1)])
        none
      = { row := some (enc cid k (setCore none exp preserve val isJSON newCas).1), affected := 1 } := by
  simp [ins_cas_collection_exp_isJSON_key_revSeqNo_value_xattrs, Upsert.exec, setCore, insertRow, SRow.set, env, enc, encV, defaultRow]

end Rosmar.Gen.Sql
