import Rosmar.Gen.Sql
import Rosmar.Kv
import Rosmar.Xattr

/-! Tie between the model's row functions and the SQL statements regenerated from /repo (`Gen/Sql.lean`):
each row function writes exactly the row the statement of the corresponding Go entry point computes, with the
placeholders bound as the Go call binds them (`env` is keyed by the *Go expression* at the `Exec` call, which is
regenerated together with the statement).  What stays hand-written is the Go control flow *between* the
statements (which statement is chosen, what the preceding SELECT fed into the arguments); the correspondence check
answers for that.  This file: the generic part (a WHERE clause that pins `collection` and `key` touches no other row; every
regenerated statement does pin them).  `TieSqlAdd/Set/Wcas/Remove/Touch/Xattr.lean`: one file per group of entry points, so that
a statement that changes only breaks the obligations of the properties that depend on it. -/

namespace Rosmar.Gen.Sql
open Rosmar Rosmar.Sql

/-- Placeholder bindings. A placeholder bound to a parameter of the Go function (or a field of one) is named by that Go expression
(`"c.id"`, `"key"`, `"e.cas"`); one bound to a local variable or a compound expression is named by its role in the statement
(`"$cas"`: stored into `cas`; `"$where.cas"`: compared with `cas`), so that renaming a local does not disturb the tie. -/
def env (l : List (String × SV)) : Env := fun g =>
  match l.find? (fun p => p.1 == g) with
  | some p => p.2
  | none => .null

/-! ### Evaluation: what each form of expression computes

Conditions are only ever asked whether they are true (`SV.truthy`), so the connectives and comparisons are characterised at that
level; with these as `simp` lemmas a WHERE clause over an encoded row evaluates to a Boolean over the model's row, and `E.eval`
itself is never unfolded (unfolding it first would bury `AND` in a five-way `match`). -/

section
variable (ps : Env) (r : SRow) (a b c : E)

@[simp] theorem eval_col (c : Col) : (E.col c).eval ps r = r.get c := rfl
@[simp] theorem eval_par (g : String) : (E.par g).eval ps r = ps g := rfl
@[simp] theorem eval_lit (v : SV) : (E.lit v).eval ps r = v := rfl
@[simp] theorem eval_iif : (E.iif c a b).eval ps r = if (c.eval ps r).truthy then a.eval ps r else b.eval ps r := rfl
@[simp] theorem eval_add : (E.add a b).eval ps r =
    match a.eval ps r, b.eval ps r with
    | .int x, .int y => .int (x + y)
    | _, _ => .null := rfl
@[simp] theorem truthy_ofBool (x : Bool) : (ofBool x).truthy = x := by cases x <;> rfl

@[simp] theorem truthy_and : ((E.and a b).eval ps r).truthy = ((a.eval ps r).truthy && (b.eval ps r).truthy) := by
  simp only [E.eval]
  rcases a.eval ps r with _ | (_ | n) | _ <;> rcases b.eval ps r with _ | (_ | m) | _ <;> rfl

@[simp] theorem truthy_or : ((E.or a b).eval ps r).truthy = ((a.eval ps r).truthy || (b.eval ps r).truthy) := by
  simp only [E.eval]
  rcases a.eval ps r with _ | (_ | n) | _ <;> rcases b.eval ps r with _ | (_ | m) | _ <;> rfl

@[simp] theorem truthy_eq : ((E.eq a b).eval ps r).truthy = (a.eval ps r).same (b.eval ps r) := by
  simp only [E.eval]
  cases a.eval ps r <;> cases b.eval ps r <;> first | rfl | exact truthy_ofBool _

@[simp] theorem truthy_ne : ((E.ne a b).eval ps r).truthy =
    (a.eval ps r != .null && b.eval ps r != .null && !(a.eval ps r).same (b.eval ps r)) := by
  simp only [E.eval]
  cases a.eval ps r <;> cases b.eval ps r <;> first | rfl | exact truthy_ofBool _

@[simp] theorem truthy_lt : ((E.lt a b).eval ps r).truthy =
    match a.eval ps r, b.eval ps r with
    | .int x, .int y => decide (x < y)
    | _, _ => false := by
  simp only [E.eval]
  cases a.eval ps r <;> cases b.eval ps r <;> first | rfl | exact truthy_ofBool _

@[simp] theorem truthy_le : ((E.le a b).eval ps r).truthy =
    match a.eval ps r, b.eval ps r with
    | .int x, .int y => decide (x ≤ y)
    | _, _ => false := by
  simp only [E.eval]
  cases a.eval ps r <;> cases b.eval ps r <;> first | rfl | exact truthy_ofBool _

@[simp] theorem truthy_notNull : ((E.notNull a).eval ps r).truthy = (a.eval ps r != .null) := truthy_ofBool _
@[simp] theorem truthy_isNull : ((E.isNull a).eval ps r).truthy = (a.eval ps r == .null) := truthy_ofBool _
end

@[simp] theorem same_int (a b : Nat) : (SV.int a).same (.int b) = (a == b) := rfl
@[simp] theorem same_text (a b : String) : (SV.text a).same (.text b) = (a == b) := rfl
@[simp] theorem same_ofBool_one (b : Bool) : (ofBool b).same (.int 1) = b := by cases b <;> rfl
@[simp] theorem same_ofBool_zero (b : Bool) : (ofBool b).same (.int 0) = !b := by cases b <;> rfl
@[simp] theorem ofBool_ne_null (b : Bool) : (ofBool b != .null) = true := by cases b <;> rfl
@[simp] theorem ofBool_true : ofBool true = .int 1 := rfl
@[simp] theorem ofBool_false : ofBool false = .int 0 := rfl
@[simp] theorem encX_nil : encX [] = .null := rfl
@[simp] theorem encV_ne_null (v : Option String) : (encV v != .null) = v.isSome := by cases v <;> rfl
@[simp] theorem encV_asText (v : Option String) : (encV v).asText = v := by cases v <;> rfl

@[simp] theorem eval_concat (ps : Env) (r : SRow) (a b : E) : (E.concat a b).eval ps r =
    encV ((a.eval ps r).asText.bind fun x => (b.eval ps r).asText.map (x ++ ·)) := by
  simp only [E.eval]
  cases (a.eval ps r).asText <;> cases (b.eval ps r).asText <;> rfl

theorem Update.exec_some (u : Update) (ps : Env) (r : SRow) :
    u.exec ps (some r) = if (u.cond.eval ps r).truthy then { row := some (applySets ps r u.sets r), affected := 1 }
      else { row := some r, affected := 0 } := rfl

/-! ### Generic: a statement whose WHERE clause pins `collection` and `key` changes no other row -/

theorem truthy_conjuncts (ps : Env) (r : SRow) (e : E) (h : (e.eval ps r).truthy = true) :
    ∀ x ∈ e.conjuncts, (x.eval ps r).truthy = true := by
  induction e with
  | and a b iha ihb =>
    intro x hx
    rw [truthy_and, Bool.and_eq_true] at h
    simp only [E.conjuncts, List.mem_append] at hx
    exact hx.elim (iha h.1 x) (ihb h.2 x)
  | _ => intro x hx; simp only [E.conjuncts, List.mem_singleton] at hx; subst hx; exact h

/-- A condition that pins column `c` to placeholder `g` only accepts rows whose `c` equals the bound value. -/
theorem pins_sound (ps : Env) (r : SRow) (e : E) (c : Col) (g : String) (hp : e.pins c g = true)
    (h : (e.eval ps r).truthy = true) : (r.get c).same (ps g) = true := by
  simp only [E.pins, List.any_eq_true] at hp
  obtain ⟨x, hx, hm⟩ := hp
  have ht := truthy_conjuncts ps r e h x hx
  split at hm
  · simp only [Bool.and_eq_true, beq_iff_eq] at hm
    obtain ⟨rfl, rfl⟩ := hm
    simpa using ht
  · cases hm

/-- **An UPDATE whose WHERE clause pins a column leaves every row with another value in that column alone.** -/
theorem update_other_row (u : Update) (ps : Env) (r : SRow) (c : Col) (g : String) (hp : u.cond.pins c g = true)
    (hne : (r.get c).same (ps g) = false) : u.exec ps (some r) = { row := some r, affected := 0 } := by
  rw [Update.exec_some, if_neg]
  exact fun h => by simp [pins_sound ps r u.cond c g hp h] at hne

/-- **Over the whole table**: an UPDATE whose WHERE clause pins `collection` and `key` rewrites only rows that carry the bound collection id
and the bound key - rows of every other collection, and every other key of the same collection, come out as they went in. -/
theorem update_table_touches_only (u : Update) (ps : Env) (t : List SRow) (gc gk : String)
    (hc : u.cond.pins .collection gc = true) (hk : u.cond.pins .key gk = true) :
    u.execTable ps t
      = t.map (fun r => if r.collection.same (ps gc) && r.key.same (ps gk)
                        then (if (u.cond.eval ps r).truthy then applySets ps r u.sets r else r) else r) := by
  unfold Update.execTable
  apply List.map_congr_left
  intro r _
  by_cases h : (u.cond.eval ps r).truthy = true
  · have h1 := pins_sound ps r u.cond .collection gc hc h
    have h2 := pins_sound ps r u.cond .key gk hk h
    simp only [SRow.get] at h1 h2
    simp [h, h1, h2]
  · simp [h]

/-- "Whenever the row function writes a row, `P` holds of that row and of the event; it never succeeds without writing one." -/
def Writes (res : Out ⊕ (Option Row × Option Event × Out)) (P : Row → Option Event → Prop) : Prop :=
  match res with
  | .inr (some r', ev, _) => P r' ev
  | .inr (none, _, _) => False
  | .inl _ => True

@[simp] theorem writes_inl (o : Out) (P : Row → Option Event → Prop) : Writes (.inl o) P = True := rfl
@[simp] theorem writes_some (r' : Row) (ev : Option Event) (o : Out) (P : Row → Option Event → Prop) :
    Writes (.inr (some r', ev, o)) P = P r' ev := rfl

end Rosmar.Gen.Sql
