import Rosmar.Gen.TieSqlBase

/-! `WriteCas` (all options) against its three regenerated statements and the appended `AND cas=?` fragment. -/

namespace Rosmar.Gen.Sql
open Rosmar Rosmar.Sql

/-! ### WriteCas -/

/-- The statement `WriteCas` chooses, as the Go `if` chain chooses it. -/
def wcasExec (o : WOpts) (cas : Nat) (wasTomb : Bool) (ps : Env) (old : Option SRow) : Res :=
  if o.append then upd_cas_exp_isJSON_revSeqNo_tombstone_value_xattrs__by_cas_collection_key_valueSet.exec ps old
  else if o.addOnly ∨ cas = 0 then
    (if ¬ wasTomb ∧ cas ≠ 0 then
        { ups_cas_collection_exp_isJSON_key_revSeqNo_tombstone_value__set_cas_exp_isJSON_revSeqNo_tombstone_value_xattrsN__if_tombstoneIs1 with
          conflict := ups_cas_collection_exp_isJSON_key_revSeqNo_tombstone_value__set_cas_exp_isJSON_revSeqNo_tombstone_value_xattrsN__if_tombstoneIs1.conflict.map (fun p => (p.1, .and p.2 frag_and_cas)) }
      else ups_cas_collection_exp_isJSON_key_revSeqNo_tombstone_value__set_cas_exp_isJSON_revSeqNo_tombstone_value_xattrsN__if_tombstoneIs1).exec ps old
  else upd_cas_exp_isJSON_revSeqNo_tombstone_value_xattrs__by_cas_collection_key.exec ps old

def wcasEnv (cid : Nat) (k : String) (exp cas : Nat) (val : Option String) (o : WOpts) (newCas now : Nat) (old : Option Row) : Env :=
  env [("$value", encV val), ("$cas", .int newCas), ("c.id", .int cid), ("key", .text k), ("cas", .int cas),
       ("exp", .int (absExp now exp)), ("$isJSON", ofBool ((!(o.raw || o.append)) && val.isSome)),
       ("$revSeqNo", .int ((match old with | some r => r.rev | none => 0) + 1)), ("$tombstone", ofBool val.isNone)]

/-- What `WriteCas` read into `wasTombstone` before choosing its statement. -/
def wasTomb : Option Row → Bool
  | some r => r.tomb
  | none => false

/-! What each of the three statements does to any stored row, for any binding of the placeholders. -/

/-- The row the SET list shared by the three statements writes over `r`, up to `value` and `xattrs`. -/
def wcasSet (ps : Env) (r : SRow) (value xattrs : SV) : SRow :=
  { r with cas := ps "$cas", exp := ps "exp", isJSON := ps "$isJSON", revSeqNo := ps "$revSeqNo", tombstone := ps "$tombstone",
           value := value, xattrs := xattrs }

/-- `iif(tombstone != 0, null, xattrs)`. -/
def keptXattrs (r : SRow) : SV := if r.tombstone != .null && !r.tombstone.same (.int 0) then .null else r.xattrs

theorem upd_wcas_exec (ps : Env) (r : SRow) :
    upd_cas_exp_isJSON_revSeqNo_tombstone_value_xattrs__by_cas_collection_key.exec ps (some r) =
      if r.collection.same (ps "c.id") && r.key.same (ps "key") && r.cas.same (ps "cas") then
        { row := some (wcasSet ps r (ps "$value") (keptXattrs r)), affected := 1 }
      else { row := some r, affected := 0 } := by
  simp [upd_cas_exp_isJSON_revSeqNo_tombstone_value_xattrs__by_cas_collection_key, Update.exec_some, applySets, SRow.set, SRow.get, wcasSet, keptXattrs]

theorem upd_wcas_append_exec (ps : Env) (r : SRow) :
    upd_cas_exp_isJSON_revSeqNo_tombstone_value_xattrs__by_cas_collection_key_valueSet.exec ps (some r) =
      if r.collection.same (ps "c.id") && r.key.same (ps "key") && r.cas.same (ps "cas") && r.value != .null then
        { row := some (wcasSet ps r (encV (r.value.asText.bind fun x => (ps "$value").asText.map (x ++ ·))) (keptXattrs r)), affected := 1 }
      else { row := some r, affected := 0 } := by
  simp [upd_cas_exp_isJSON_revSeqNo_tombstone_value_xattrs__by_cas_collection_key_valueSet, Update.exec_some, applySets, SRow.set, SRow.get, wcasSet, keptXattrs]

/-- The conflict arm of the upsert, with (`withCas`) or without the appended `AND cas=?`. -/
theorem ups_wcas_exec_some (ps : Env) (r : SRow) (withCas : Prop) [Decidable withCas] :
    (if withCas then
        { ups_cas_collection_exp_isJSON_key_revSeqNo_tombstone_value__set_cas_exp_isJSON_revSeqNo_tombstone_value_xattrsN__if_tombstoneIs1 with
          conflict := ups_cas_collection_exp_isJSON_key_revSeqNo_tombstone_value__set_cas_exp_isJSON_revSeqNo_tombstone_value_xattrsN__if_tombstoneIs1.conflict.map (fun p => (p.1, .and p.2 frag_and_cas)) }
      else ups_cas_collection_exp_isJSON_key_revSeqNo_tombstone_value__set_cas_exp_isJSON_revSeqNo_tombstone_value_xattrsN__if_tombstoneIs1).exec ps (some r) =
      if r.tombstone.same (.int 1) && (decide withCas → r.cas.same (ps "cas")) then
        { row := some (wcasSet ps r (ps "$value") .null), affected := 1 }
      else { row := some r, affected := 0 } := by
  split <;> rename_i h <;>
    simp [ups_cas_collection_exp_isJSON_key_revSeqNo_tombstone_value__set_cas_exp_isJSON_revSeqNo_tombstone_value_xattrsN__if_tombstoneIs1, frag_and_cas, Upsert.exec, applySets, SRow.set, SRow.get, wcasSet, h]

/-- `WriteCas`, whenever it reaches its `Exec` (it returns before that only for a missing key with a non-zero CAS). -/
theorem tie_wcas (cid : Nat) (k : String) (exp cas : Nat) (val : Option String) (o : WOpts) (newCas now : Nat) (old : Option Row)
    (hreach : old.isSome ∨ cas = 0) :
    wcasExec o cas (wasTomb old) (wcasEnv cid k exp cas val o newCas now old) (old.map (enc cid k))
      = match wcasRow k exp cas val o newCas now old with
        | .inr (some r', _, _) => { row := some (enc cid k r'), affected := 1 }
        | _ => { row := old.map (enc cid k), affected := 0 } := by
  cases old with
  | none =>
    have hc : cas = 0 := by simpa using hreach
    subst hc
    cases ha : o.append <;>
      simp [wasTomb, wcasExec, wcasEnv, wcasRow, ha, ups_cas_collection_exp_isJSON_key_revSeqNo_tombstone_value__set_cas_exp_isJSON_revSeqNo_tombstone_value_xattrsN__if_tombstoneIs1, Update.exec,
        Upsert.exec, insertRow, SRow.set, env, enc, encX, defaultRow]
  | some r =>
    unfold wcasExec
    cases ha : o.append
    · by_cases hins : o.addOnly = true ∨ cas = 0
      · simp only [Bool.false_eq_true, if_false, hins, if_true, Option.map_some]
        rw [ups_wcas_exec_some]
        cases ht : r.tomb <;> simp [wasTomb, wcasEnv, wcasRow, wcasSet, env, enc, ha, hins, ht, ← apply_ite Sum.inl]
      · simp only [Bool.false_eq_true, if_false, hins, Option.map_some]
        rw [upd_wcas_exec]
        by_cases hcas : r.cas = cas <;>
          simp [wcasEnv, wcasRow, wcasSet, keptXattrs, env, enc, ha, hins, hcas, ← apply_ite Sum.inl, apply_ite encX]
    · simp only [if_true, Option.map_some]
      rw [upd_wcas_append_exec]
      cases hv : r.value <;> by_cases hcas : r.cas = cas <;>
        simp [wcasEnv, wcasRow, wcasSet, keptXattrs, env, enc, ha, hv, hcas, ← apply_ite Sum.inl, apply_ite encX]

end Rosmar.Gen.Sql
