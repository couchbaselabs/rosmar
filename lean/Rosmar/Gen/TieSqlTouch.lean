import Rosmar.Gen.TieSqlBase

/-! `Touch` / `GetAndTouchRaw` against the regenerated UPDATE. -/

namespace Rosmar.Gen.Sql
open Rosmar Rosmar.Sql

/-! ### Touch / GetAndTouchRaw -/

theorem tie_touch (cid : Nat) (k : String) (exp newCas now : Nat) (r : Row) :
    Writes (touchRow exp newCas now (some r)) (fun r' _ =>
      upd_exp_revSeqNo__by_collection_key.exec
        (env [("exp", .int (absExp now exp)), ("$revSeqNo", .int (r.rev + 1)), ("key", .text k), ("c.id", .int cid)]) (some (enc cid k r))
        = { row := some (enc cid k r'), affected := 1 }) := by
  unfold touchRow
  dsimp only
  cases hv : r.value
  · simp
  · simp [hv, upd_exp_revSeqNo__by_collection_key, Update.exec_some, applySets, SRow.set, SRow.get, env, enc, encV]

end Rosmar.Gen.Sql
