import Rosmar.Gen.TieSqlBase
import Rosmar.Query

/-! `$_keyspace` is exactly the live documents of the collection, as the regenerated common table expression of `prepareQuery` selects them. -/

namespace Rosmar.Gen.Sql
open Rosmar Rosmar.Sql

/-! ### `$_keyspace`: the live documents of the collection -/

theorem tie_keyspace_pred (cid : Nat) (k : String) (r : Row) :
    sel_by_collection_valueSet.selects (env [("$where.collection", .int cid)]) (enc cid k r) = r.value.isSome := by
  simp [sel_by_collection_valueSet, Select.selects, SRow.get, env, enc]

/-- The model's `$_keyspace` has one row for exactly the documents the regenerated common table expression selects. -/
theorem tie_keyspace (cid : Nat) (docs : Docs) :
    docs.filterMap (fun d => d.2.value.map (fun b => ({ id := d.1, body := b, xattrs := d.2.xattrs } : KsRow)))
      = (docs.filter (fun d => sel_by_collection_valueSet.selects (env [("$where.collection", .int cid)]) (enc cid d.1 d.2))).filterMap
          (fun d => d.2.value.map (fun b => ({ id := d.1, body := b, xattrs := d.2.xattrs } : KsRow))) := by
  induction docs with
  | nil => rfl
  | cons d rest ih =>
    simp only [List.filterMap_cons, List.filter_cons, tie_keyspace_pred]
    cases hv : d.2.value <;> simp [hv, ih, tie_keyspace_pred]

end Rosmar.Gen.Sql
