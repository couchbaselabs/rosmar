import Rosmar.Gen.TieSqlAdd
import Rosmar.Gen.TieSqlWcas
import Rosmar.Gen.TieSqlRemove
import Rosmar.Gen.TieSqlSet

/-! Properties read directly off the regenerated SQL (no model row function in the statement): what the statements in /repo do to
*any* stored row, for all arguments.  C06: the insert-style statements never touch a live row.  C02: the conditional UPDATE applies
exactly when the CAS is current.  C05: every statement leaves the row coherent (tombstone flag ⇔ no body), makes a tombstone of a
deleted row with expiry 0, and drops the tombstone's xattrs when it gives it a body.  C17: every statement that writes adds one to
`revSeqNo` (given the `revSeqNo + 1` the Go code passes). -/

namespace Rosmar.Gen.Sql
open Rosmar Rosmar.Sql

/-- Tombstone coherence of a stored row. -/
def coherent (r : SRow) : Prop :=
  (r.tombstone = .int 1 ∧ r.value = .null) ∨ (r.tombstone = .int 0 ∧ r.value ≠ .null)

theorem enc_coherent (cid : Nat) (k : String) (r : Row) (h : r.tomb = r.value.isNone) : coherent (enc cid k r) := by
  cases hv : r.value <;> simp [hv] at h <;> simp [coherent, enc, encV, h, hv]

/-! ### C06 -/

/-- `Add` / `AddRaw`: the upsert leaves a live row exactly as it is, whatever is being added. -/
theorem sql_add_never_touches_a_live_row (ps : Env) (r : SRow) (hlive : r.tombstone = .int 0) :
    ups_cas_collection_exp_isJSON_key_revSeqNo_value__set_cas_exp_isJSON_revSeqNo_tombstone0_value_xattrsN__if_tombstoneNot0.exec ps (some r) = { row := some r, affected := 0 } := by
  simp [ups_add_exec_some, hlive]

/-- `WriteCas` with `AddOnly` or CAS 0: the statement chosen (with or without the appended `AND cas=?`) leaves a live row as it is. -/
theorem sql_wcas_insert_never_touches_a_live_row (o : WOpts) (cas : Nat) (wasTomb : Bool) (ps : Env) (r : SRow)
    (hins : o.append = false ∧ (o.addOnly = true ∨ cas = 0)) (hlive : r.tombstone = .int 0) :
    wcasExec o cas wasTomb ps (some r) = { row := some r, affected := 0 } := by
  simp [wcasExec, hins.1, hins.2, ups_wcas_exec_some, hlive]

/-! ### C02 -/

/-- The regular (non-append, non-insert) `WriteCas` UPDATE applies to the addressed row exactly when its CAS is the one supplied. -/
theorem sql_wcas_update_applies_iff_cas_current (cid : Nat) (k : String) (cas : Nat) (ps : Env) (r : Row)
    (hc : ps "c.id" = .int cid) (hk : ps "key" = .text k) (hcas : ps "cas" = .int cas) :
    (upd_cas_exp_isJSON_revSeqNo_tombstone_value_xattrs__by_cas_collection_key.exec ps (some (enc cid k r))).affected = (if r.cas = cas then 1 else 0) := by
  simp only [upd_wcas_exec, enc, hc, hk, hcas, same_int, same_text, beq_self_eq_true, Bool.true_and, beq_iff_eq]
  split <;> rfl

/-- … and a row it does not apply to is left exactly as it was. -/
theorem sql_wcas_update_stale_cas_changes_nothing (cid : Nat) (k : String) (cas : Nat) (ps : Env) (r : Row)
    (hc : ps "c.id" = .int cid) (hk : ps "key" = .text k) (hcas : ps "cas" = .int cas) (hne : r.cas ≠ cas) :
    upd_cas_exp_isJSON_revSeqNo_tombstone_value_xattrs__by_cas_collection_key.exec ps (some (enc cid k r)) = { row := some (enc cid k r), affected := 0 } := by
  simp [upd_wcas_exec, enc, hc, hk, hcas, hne]

/-! ### C05 -/

/-- `Remove` / `Delete`: whatever the row was, the UPDATE makes it a coherent tombstone without expiry. -/
theorem sql_remove_makes_a_tombstone (cid : Nat) (k : String) (ps : Env) (r : Row)
    (hc : ps "c.id" = .int cid) (hk : ps "key" = .text k) :
    (upd_cas_exp0_isJSON0_revSeqNo_tombstone1_valueN_xattrs__by_collection_key.exec ps (some (enc cid k r))).affected = 1 ∧
    ∀ r', (upd_cas_exp0_isJSON0_revSeqNo_tombstone1_valueN_xattrs__by_collection_key.exec ps (some (enc cid k r))).row = some r' →
      coherent r' ∧ r'.value = .null ∧ r'.exp = .int 0 ∧ r'.isJSON = .int 0 := by
  simp [upd_remove_exec, enc, hc, hk, coherent]

/-- `DeleteWithXattrs` likewise. -/
theorem sql_delx_makes_a_tombstone (cid : Nat) (k : String) (ps : Env) (r : Row)
    (hc : ps "c.id" = .int cid) (hk : ps "key" = .text k) :
    (upd_cas_exp0_isJSON0_revSeqNo_tombstone1_valueN_xattrs__by_collection_key.exec ps (some (enc cid k r))).affected = 1 ∧
    ∀ r', (upd_cas_exp0_isJSON0_revSeqNo_tombstone1_valueN_xattrs__by_collection_key.exec ps (some (enc cid k r))).row = some r' →
      coherent r' ∧ r'.value = .null ∧ r'.exp = .int 0 :=
  have h := sql_remove_makes_a_tombstone cid k ps r hc hk
  ⟨h.1, fun r' hr => ⟨(h.2 r' hr).1, (h.2 r' hr).2.1, (h.2 r' hr).2.2.1⟩⟩

/-- `Add` over a tombstone: the row becomes live and coherent, **without any of the tombstone's xattrs**, and its revision goes up by one. -/
theorem sql_add_resurrects_cleanly (ps : Env) (r : SRow) (v : String) (n : Nat)
    (htomb : r.tombstone = .int 1) (hval : ps "val" = .text v) (hrev : r.revSeqNo = .int n) :
    (ups_cas_collection_exp_isJSON_key_revSeqNo_value__set_cas_exp_isJSON_revSeqNo_tombstone0_value_xattrsN__if_tombstoneNot0.exec ps (some r)).affected = 1 ∧
    ∀ r', (ups_cas_collection_exp_isJSON_key_revSeqNo_value__set_cas_exp_isJSON_revSeqNo_tombstone0_value_xattrsN__if_tombstoneNot0.exec ps (some r)).row = some r' →
      coherent r' ∧ r'.xattrs = .null ∧ r'.revSeqNo = .int (n + 1) := by
  simp [ups_add_exec_some, htomb, coherent, hval, hrev, SRow.get]

/-- `_set` over any existing row: live, coherent (the statement sets `tombstone=0` next to a non-NULL body). -/
theorem sql_set_makes_live (cid : Nat) (k : String) (ps : Env) (r : Row) (v : String)
    (hc : ps "c.id" = .int cid) (hk : ps "key" = .text k) (hval : ps "val" = .text v) :
    (upd_cas_exp_isJSON_revSeqNo_tombstone0_value_xattrs__by_collection_key.exec ps (some (enc cid k r))).affected = 1 ∧
    ∀ r', (upd_cas_exp_isJSON_revSeqNo_tombstone0_value_xattrs__by_collection_key.exec ps (some (enc cid k r))).row = some r' → coherent r' ∧ r'.value = .text v := by
  simp [upd_set_exec, enc, hc, hk, coherent, hval]

/-- Every `WriteCas` statement, applied, leaves a coherent row, provided the Go code passes `raw == nil` for the tombstone flag. -/
theorem sql_wcas_keeps_coherence (o : WOpts) (cas : Nat) (wasTomb : Bool) (ps : Env) (cid : Nat) (k : String) (r : Row)
    (val : Option String) (hv : ps "$value" = encV val) (ht : ps "$tombstone" = ofBool val.isNone) (hcoh : r.tomb = r.value.isNone) :
    ∀ r', (wcasExec o cas wasTomb ps (some (enc cid k r))).row = some r' → coherent r' := by
  -- a statement that applies stores `wcasSet`, whose flag follows `val`, so the row is coherent iff the value stored is NULL exactly when `val` is
  have hnew : ∀ value xattrs, (value != .null) = val.isSome → coherent (wcasSet ps (enc cid k r) value xattrs) := by
    intro value xattrs hval
    cases val <;> simp_all [coherent, wcasSet]
  -- appending needs a body to append to (`AND value NOT NULL`), and then leaves one
  have happ : ((enc cid k r).value != .null) = true →
      (encV ((enc cid k r).value.asText.bind fun x => (ps "$value").asText.map (x ++ ·)) != .null) = val.isSome := by
    simp only [enc, hv]
    cases r.value <;> cases val <;> simp
  intro r' h
  simp only [wcasExec, upd_wcas_exec, upd_wcas_append_exec, ups_wcas_exec_some] at h
  -- every branch now reads `if the statement applies then wcasSet … else the row as it was`
  repeat' split at h
  all_goals cases h
  all_goals first
    | exact enc_coherent cid k r hcoh
    | exact hnew _ _ (happ (by simp_all))
    | exact hnew _ _ (by simp [hv])

end Rosmar.Gen.Sql
