import Rosmar.Gen.TieSqlAdd
import Rosmar.Gen.TieSqlWcas
import Rosmar.Proofs.Lemmas

/-! From the addressed row to the collection's table: a row function that is tied to a regenerated statement (`tie_add`, `tie_wcas`),
lifted by `liftRow` to the collection, changes the collection exactly as the statement says - the addressed key gets the statement's row,
every other key keeps its row. -/

namespace Rosmar.Gen.Sql
open Rosmar Rosmar.Sql

theorem enc_storedRow (cid : Nat) (k : String) (old : Option Row) (nid : Nat) (r' : Row) :
    enc cid k (storedRow old nid r') = enc cid k r' := by
  simp [enc, storedRow]

/-- Generic lifting: if `sqlExec` computes, on the encoded addressed row, what the row function `f` writes, then the transaction `liftRow k f`
leaves the collection with exactly `sqlExec`'s row under `k` and every other key untouched. -/
theorem liftRow_is_sql (cid : Nat) (k : String) (f : RowFn) (nc now nid : Nat) (docs docs' : Docs) (nid' : Nat) (ev : Option Event) (o : Out)
    (sqlExec : Option SRow → Res)
    (htie : sqlExec ((docs.get? k).map (enc cid k)) =
      match f nc now (docs.get? k) with
      | .inr (some r', _, _) => { row := some (enc cid k r'), affected := 1 }
      | _ => { row := (docs.get? k).map (enc cid k), affected := 0 })
    (h : liftRow k f nc now nid docs = .inr (docs', nid', ev, o)) :
    (docs'.get? k).map (enc cid k) = (sqlExec ((docs.get? k).map (enc cid k))).row ∧
    ∀ k', k' ≠ k → docs'.get? k' = docs.get? k' := by
  rcases liftRow_inr h with ⟨hf, rfl⟩ | ⟨r', hf, rfl⟩
  · exact ⟨by rw [htie, hf], fun _ _ => rfl⟩
  · exact ⟨by rw [htie, hf, Docs.get?_put, if_pos rfl]; exact congrArg some (enc_storedRow ..),
      fun k' hk => by rw [Docs.get?_put, if_neg hk]⟩

/-- `Add` / `AddRaw` on a collection = the regenerated upsert of `Collection.add` on the addressed row, nothing else changes. -/
theorem add_on_collection_is_sql (cid : Nat) (k val : String) (exp : Nat) (isJSON : Bool) (nc now nid : Nat) (docs docs' : Docs) (nid' : Nat)
    (ev : Option Event) (o : Out) (h : addFn k exp val isJSON nc now nid docs = .inr (docs', nid', ev, o)) :
    (docs'.get? k).map (enc cid k)
      = (ups_cas_collection_exp_isJSON_key_revSeqNo_value__set_cas_exp_isJSON_revSeqNo_tombstone0_value_xattrsN__if_tombstoneNot0.exec
          (env [("c.id", .int cid), ("key", .text k), ("val", .text val), ("$cas", .int nc), ("exp", .int (absExp now exp)), ("isJSON", ofBool isJSON)])
          ((docs.get? k).map (enc cid k))).row ∧
    ∀ k', k' ≠ k → docs'.get? k' = docs.get? k' :=
  liftRow_is_sql cid k (addRow k exp val isJSON) nc now nid docs docs' nid' ev o _ (tie_add cid k val exp isJSON nc now (docs.get? k)) h

/-- `WriteCas` (every option) on a collection = the statement its `if` chain chooses, on the addressed row, nothing else changes
(whenever the Go code reaches its `Exec`: the key exists or the CAS supplied is 0). -/
theorem wcas_on_collection_is_sql (cid : Nat) (k : String) (exp cas : Nat) (val : Option String) (opts : WOpts) (nc now nid : Nat)
    (docs docs' : Docs) (nid' : Nat) (ev : Option Event) (o : Out) (hreach : (docs.get? k).isSome ∨ cas = 0)
    (h : wcasFn k exp cas val opts nc now nid docs = .inr (docs', nid', ev, o)) :
    (docs'.get? k).map (enc cid k)
      = (wcasExec opts cas (wasTomb (docs.get? k)) (wcasEnv cid k exp cas val opts nc now (docs.get? k))
          ((docs.get? k).map (enc cid k))).row ∧
    ∀ k', k' ≠ k → docs'.get? k' = docs.get? k' :=
  liftRow_is_sql cid k (wcasRow k exp cas val opts) nc now nid docs docs' nid' ev o _ (tie_wcas cid k exp cas val opts nc now (docs.get? k) hreach) h

end Rosmar.Gen.Sql
