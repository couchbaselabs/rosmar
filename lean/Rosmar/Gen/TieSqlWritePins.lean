import Rosmar.Gen.TieSqlBase

/-! Every regenerated UPDATE pins `collection` and `key`; every regenerated INSERT addresses them and no conflict arm assigns them. Kept apart from
`TieSqlBase` so that a statement whose shape (and therefore name) changes only breaks the modules that mention it. -/

namespace Rosmar.Gen.Sql
open Rosmar Rosmar.Sql

/-- Every regenerated UPDATE on `documents` pins both `collection` (to the Go expression `c.id`) and `key` (to `key`). -/
theorem updates_pin_collection_and_key :
    ∀ u ∈ [upd_cas_revSeqNo_xattrs__by_collection_key, upd_cas_exp0_isJSON0_revSeqNo_tombstone1_valueN_xattrs__by_collection_key, upd_exp_revSeqNo__by_collection_key,
           upd_cas_exp_isJSON_revSeqNo_tombstone_value_xattrs__by_cas_collection_key_valueSet, upd_cas_exp_isJSON_revSeqNo_tombstone_value_xattrs__by_cas_collection_key, upd_cas_exp_isJSON_revSeqNo_tombstone0_value_xattrs__by_collection_key, upd_cas_exp0_isJSON0_revSeqNo_tombstone1_valueN_xattrs__by_collection_key],
      u.cond.pins .collection "c.id" = true ∧ u.cond.pins .key "key" = true := by
  decide

/-- Every regenerated INSERT gives `collection` the value of `c.id` and `key` the key of the call; none writes `collection`
or `key` in its conflict arm. -/
theorem upserts_address_collection_and_key :
    (∀ i ∈ [ups_cas_collection_exp_isJSON_key_revSeqNo_tombstone_value__set_cas_exp_isJSON_revSeqNo_tombstone_value_xattrsN__if_tombstoneIs1, ins_cas_collection_exp_isJSON_key_revSeqNo_value_xattrs, ups_cas_collection_exp_isJSON_key_revSeqNo_value__set_cas_exp_isJSON_revSeqNo_tombstone0_value_xattrsN__if_tombstoneNot0],
        (match i.valueOf .collection, i.valueOf .key with
          | some (.par "c.id"), some (.par "key") => true | _, _ => false) = true) ∧
    ((match ups_cas_collection_exp_isJSON_key_revSeqNo_tombstone_value_xattrs__set_cas_exp_isJSON_revSeqNo_tombstone_value_xattrs__if_collection_key.valueOf .collection, ups_cas_collection_exp_isJSON_key_revSeqNo_tombstone_value_xattrs__set_cas_exp_isJSON_revSeqNo_tombstone_value_xattrs__if_collection_key.valueOf .key with
          | some (.par "c.id"), some (.par "e.key") => true | _, _ => false) = true) ∧
    (∀ i ∈ [ups_cas_collection_exp_isJSON_key_revSeqNo_tombstone_value__set_cas_exp_isJSON_revSeqNo_tombstone_value_xattrsN__if_tombstoneIs1, ins_cas_collection_exp_isJSON_key_revSeqNo_value_xattrs, ups_cas_collection_exp_isJSON_key_revSeqNo_value__set_cas_exp_isJSON_revSeqNo_tombstone0_value_xattrsN__if_tombstoneNot0, ups_cas_collection_exp_isJSON_key_revSeqNo_tombstone_value_xattrs__set_cas_exp_isJSON_revSeqNo_tombstone_value_xattrs__if_collection_key],
        (match i.conflict with
          | some (sets, _) => sets.all (fun p => p.1 != .collection && p.1 != .key)
          | none => true) = true) := by
  decide

end Rosmar.Gen.Sql
