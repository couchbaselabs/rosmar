import Rosmar.Gen.TieSqlBase
import Rosmar.Feed

/-! The model's backfill reads exactly the rows the regenerated statement of `enqueueBackfillEvents` selects (`cas >= start`), in the order it asks for. -/

namespace Rosmar.Gen.Sql
open Rosmar Rosmar.Sql

/-! ### Backfill: `cas >= start`, in CAS order -/

theorem tie_backfill_pred (cid : Nat) (k : String) (r : Row) (start : Nat) :
    sel_by_casGe_collection__order_cas.selects (env [("$where.collection", .int cid), ("$where.cas", .int start)]) (enc cid k r)
      = decide (r.cas ≥ start) := by
  simp [sel_by_casGe_collection__order_cas, Select.selects, SRow.get, env, enc]

theorem tie_backfill_order : sel_by_casGe_collection__order_cas.orderBy = [.cas] := by decide

/-- The model's backfill reads exactly the rows the regenerated statement selects, sorted by the column it orders by. -/
theorem tie_backfillRows (cid : Nat) (docs : Docs) (start : Nat) :
    backfillRows docs start
      = sortByCas (docs.filter (fun d =>
          sel_by_casGe_collection__order_cas.selects (env [("$where.collection", .int cid), ("$where.cas", .int start)]) (enc cid d.1 d.2))) := by
  unfold backfillRows
  congr 1
  apply List.filter_congr
  intro d _
  rw [tie_backfill_pred]

end Rosmar.Gen.Sql
