import Rosmar.Gen.TieSqlBase

/-! `PurgeTombstones` removes exactly the rows without a body; `exists` / `isTombstone` read the body / the tombstone flag. -/

namespace Rosmar.Gen.Sql
open Rosmar Rosmar.Sql

/-! ### PurgeTombstones: `value IS NULL` (bucket-wide) -/

theorem tie_purge_pred (cid : Nat) (k : String) (r : Row) :
    sel_by_valueNull.selects (env []) (enc cid k r) = r.value.isNone := by
  cases h : r.value <;> simp [sel_by_valueNull, Select.selects, SRow.get, enc, encV, h]

/-- `opPurge` keeps exactly the rows the regenerated DELETE does not select. -/
theorem tie_purge_keeps (cid : Nat) (docs : Docs) :
    docs.filter (fun d => d.2.value.isSome)
      = docs.filter (fun d => !sel_by_valueNull.selects (env []) (enc cid d.1 d.2)) := by
  apply List.filter_congr
  intro d _
  rw [tie_purge_pred]
  cases d.2.value <;> rfl

/-! ### Exists / isTombstone -/

theorem tie_exists_pred (cid : Nat) (k : String) (r : Row) :
    sel_by_collection_key_valueSet.selects (env [("$where.collection", .int cid), ("$where.key", .text k)]) (enc cid k r) = r.value.isSome := by
  simp [sel_by_collection_key_valueSet, Select.selects, SRow.get, env, enc]

theorem tie_istombstone_pred (cid : Nat) (k : String) (r : Row) :
    sel_by_collection_key_tombstoneIs1.selects (env [("$where.collection", .int cid), ("$where.key", .text k)]) (enc cid k r) = r.tomb := by
  simp [sel_by_collection_key_tombstoneIs1, Select.selects, SRow.get, env, enc]

end Rosmar.Gen.Sql
