import Rosmar.Gen.TieSqlBase

/-! `Add` / `AddRaw` against the regenerated upsert of `Collection.add`. -/

namespace Rosmar.Gen.Sql
open Rosmar Rosmar.Sql

/-! ### Add / AddRaw -/

/-- The conflict arm of the upsert, on any stored row: it applies exactly to tombstones. -/
theorem ups_add_exec_some (ps : Env) (r : SRow) :
    ups_cas_collection_exp_isJSON_key_revSeqNo_value__set_cas_exp_isJSON_revSeqNo_tombstone0_value_xattrsN__if_tombstoneNot0.exec ps (some r) =
      if r.tombstone != .null && !r.tombstone.same (.int 0) then
        { row := some { r with cas := ps "$cas", exp := ps "exp", isJSON := ps "isJSON", tombstone := .int 0, value := ps "val", xattrs := .null,
                               revSeqNo := (E.add (.col .revSeqNo) (.lit (.int 1))).eval ps r }, affected := 1 }
      else { row := some r, affected := 0 } := by
  simp [ups_cas_collection_exp_isJSON_key_revSeqNo_value__set_cas_exp_isJSON_revSeqNo_tombstone0_value_xattrsN__if_tombstoneNot0, Upsert.exec, applySets, SRow.set, SRow.get]

theorem tie_add (cid : Nat) (k val : String) (exp : Nat) (isJSON : Bool) (newCas now : Nat) (old : Option Row) :
    ups_cas_collection_exp_isJSON_key_revSeqNo_value__set_cas_exp_isJSON_revSeqNo_tombstone0_value_xattrsN__if_tombstoneNot0.exec
        (env [("c.id", .int cid), ("key", .text k), ("val", .text val), ("$cas", .int newCas),
              ("exp", .int (absExp now exp)), ("isJSON", ofBool isJSON)]) (old.map (enc cid k))
      = match addRow k exp val isJSON newCas now old with
        | .inr (some r', _, _) => { row := some (enc cid k r'), affected := 1 }
        | _ => { row := old.map (enc cid k), affected := 0 } := by
  cases old with
  | none => simp [ups_cas_collection_exp_isJSON_key_revSeqNo_value__set_cas_exp_isJSON_revSeqNo_tombstone0_value_xattrsN__if_tombstoneNot0, Upsert.exec, addRow, insertRow, SRow.set, env, enc, defaultRow, encV]
  | some r =>
    rw [Option.map_some, ups_add_exec_some]
    cases ht : r.tomb <;> simp [addRow, SRow.get, env, enc, encV, ht]

end Rosmar.Gen.Sql
